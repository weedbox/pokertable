import PokerVerif.Lemmas.SMRotate
import PokerVerif.Lemmas.SMAssign
/-!
# The seat manager as an operation system; what holds in every reachable state

`SM.Op` / `SM.stepOp` / `SM.runOps`: the public mutators of `seat_manager` as events.  `BBOk`: once positions are set
(default rule) the big-blind seat is a seat of the table — the hypothesis of the C04 theorems — holds in every state
reachable from `NewSeatManager` by any sequence of operations (the recorded random first seat being a legal draw).
-/
namespace SM

inductive Op
  | assign (b : List (Nat × Int))
  | randomAssign (ids : List Nat) (choice : List Int)
  | remove (ids : List Nat)
  | join (ids : List Nat)
  | setChips (id : Nat) (b : Bool)
  | init (choice : Option Int)
  | rotate

def stepOp (st : State) : Op → State
  | .assign b => (assign st b).1
  | .randomAssign ids ch => (randomAssign st ids ch).1
  | .remove ids => (remove st ids).1
  | .join ids => (join st ids).1
  | .setChips id b => (setChips st id b).1
  | .init c => (init st c).1
  | .rotate => (rotate st).1

def runOps (st : State) (ops : List Op) : State := ops.foldl stepOp st

/-- the only recorded randomness that matters here: the first big-blind seat drawn by `InitPositions(true)` is an active seat -/
def OpLegal (st : State) : Op → Prop
  | .init c => legalInitChoice st c = true
  | _ => True

def OpsLegal : State → List Op → Prop
  | _, [] => True
  | st, o :: t => OpLegal st o ∧ OpsLegal (stepOp st o) t

theorem runOps_induct (P : State → Prop) (hstep : ∀ st o, P st → OpLegal st o → P (stepOp st o))
    (st : State) (ops : List Op) (h0 : P st) (hl : OpsLegal st ops) : P (runOps st ops) := by
  induction ops generalizing st with
  | nil => exact h0
  | cons o t ih => exact ih (stepOp st o) (hstep st o h0 hl.1) hl.2

/-- a step is a membership operation, which leaves the button fields alone, or sets or moves the buttons -/
theorem stepOp_cases (st : State) (o : Op) :
    SameButtons (stepOp st o) st ∨ (∃ c, o = .init c) ∨ o = .rotate := by
  cases o with
  | assign b => exact .inl (assign_atomic st b).buttons
  | randomAssign ids ch => exact .inl (randomAssign_atomic st ids ch).buttons
  | remove ids => exact .inl (remove_atomic st ids).buttons
  | join ids => exact .inl (join_atomic st ids).buttons
  | setChips id b => exact .inl (setChips_atomic st id b).buttons
  | init c => exact .inr (.inl ⟨c, rfl⟩)
  | rotate => exact .inr (.inr rfl)

def BBOk (st : State) : Prop := st.rule = .default → st.isInit = true → 0 ≤ st.bb ∧ st.bb < st.maxSeat

theorem BBOk.of_buttons {a b : State} (h : SameButtons a b) (w : BBOk b) : BBOk a := by
  intro hr hi
  rw [h.rule] at hr; rw [h.isInit] at hi
  have := w hr hi
  rw [h.bb, h.maxSeat]; exact this

theorem firstOf_range (st : State) (c : Option Int) (hl : legalInitChoice st c = true)
    (hac : 1 ≤ activeCount st.maxSeat st.seats) : 0 ≤ firstOf st c ∧ firstOf st c < (st.maxSeat : Int) := by
  cases c with
  | some x => exact (inRange_iff st x).1 (Bool.and_eq_true _ _ ▸ hl).1
  | none =>
    obtain ⟨i, hin, hpi⟩ := count_ge_one _ _ hac
    have := firstSeat_found (activeAt st.seats) st.maxSeat (firstSeat_ne _ _ (Int.ofNat i) (Int.natCast_nonneg i) (Int.ofNat_lt.2 hin) hpi)
    exact ⟨this.1, this.2.1⟩

theorem init_bbok (st : State) (c : Option Int) (hl : legalInitChoice st c = true) (w : BBOk st) : BBOk (init st c).1 := by
  rcases init_cases st c with ⟨e, h⟩ | ⟨_, h2, d, s, b, i, r, h, _, hb⟩ <;> rw [h]
  · exact w
  · intro hr _
    rw [hb hr]; exact firstOf_range st c hl (Nat.le_of_succ_le h2)

theorem rotate_bbok (st : State) (w : BBOk st) : BBOk (rotate st).1 := by
  rcases rotate_cases st with e | ⟨hi, hr, e⟩ | ⟨hr, _, e⟩ <;> rw [e]
  · exact w
  · obtain ⟨hb0, hbn⟩ := w hr hi
    intro _ _
    rcases rotateDefault_cases st with ⟨_, e⟩ | ⟨hge, ss, d, s, e, _⟩ <;> rw [e]
    · exact ⟨hb0, hbn⟩
    · obtain ⟨_, h0, hn, _⟩ := newBB_of_two_active st hb0 hbn hge
      exact ⟨h0, hn⟩
  · exact fun hd => absurd (hr.symm.trans hd) (by decide)

theorem stepOp_rule (st : State) (o : Op) : (stepOp st o).rule = st.rule := by
  rcases stepOp_cases st o with h | ⟨c, rfl⟩ | rfl
  · exact h.rule
  · show (init st c).1.rule = _
    rw [init_frame]
  · show (rotate st).1.rule = _
    rw [rotate_frame]

theorem stepOp_bbok (st : State) (o : Op) (w : BBOk st) (hl : OpLegal st o) : BBOk (stepOp st o) := by
  rcases stepOp_cases st o with h | ⟨c, rfl⟩ | rfl
  · exact BBOk.of_buttons h w
  · exact init_bbok st c hl w
  · exact rotate_bbok st w

theorem runOps_bbok (st : State) (ops : List Op) (w : BBOk st) (hl : OpsLegal st ops) : BBOk (runOps st ops) :=
  runOps_induct BBOk stepOp_bbok st ops w hl

theorem new_bbok (n : Nat) (r : Rule) : BBOk (State.new n r) := by
  intro _ hi; simp [State.new] at hi

end SM
