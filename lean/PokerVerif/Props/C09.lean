import PokerVerif.Lemmas.OGMInv
/-!
# C09 — The open-game gate fires once, and only when everyone is ready or timed out

Statement: after a set-up naming the expected participants, the ready callback fires exactly once, never before
every participant has signalled ready unless the configured timeout has elapsed, and reports that set-up's game count
with all participants ready; a new set-up supersedes an unfinished one (the old one never fires), signals from
unknown participants are rejected with an error, and repeated signals change nothing.  A gate rebuilt from a saved
state behaves like the original.

The model makes the ReadyGroup's asynchronous steps explicit (`consume`, `complete`).  Theorems quantify over *every*
sequence of external calls and internal steps of any length that is admissible: a `Setup` happens only when the
group is quiescent (no queued action, no pending completion) and the participants' indexes are pairwise distinct.
Without those two hypotheses the statement is false of the code — three kernel-checked schedules below (known
findings D13, D18).  The table engine only sets the gate up from `continueGame` / `SetUpTableGame`, a whole hand after
the previous completion ran.  (*partial*: the memory-level behaviour of syncsaga — unsynchronised map replacement in
`ResetParticipants`, closing a channel a sender may be using — is outside the model.)
-/
namespace OGM

/-- **C09 — never before every participant has signalled, unless timed out**: whenever a completion is pending,
every participant of the current set-up has signalled since that set-up, or the timeout has elapsed since. -/
theorem C09_not_early (evs : List Ev) (ha : Adm {} evs) (hp : 0 < (run {} evs).pending) :
    (run {} evs).timedOut = true ∨ ∀ p ∈ (run {} evs).parts, p.id ∈ (run {} evs).signalled :=
  (inv_run {} evs inv_init ha).doneOK (Or.inl hp)

/-- **C09 — fires at most once per set-up** (pending completions included). -/
theorem C09_once (evs : List Ev) (ha : Adm {} evs) :
    (run {} evs).pending + (run {} evs).firedNow.length ≤ 1 :=
  Nat.le_trans (inv_run {} evs inv_init ha).onceOK (by split <;> decide)

/-- **C09 — every fire reports the current set-up's game count, names exactly its participants and shows them all
ready** (hence a superseded set-up never fires: right after a `Setup` the list of fires of the current set-up is
empty, and everything that fires later carries the new count). -/
theorem C09_reports (evs : List Ev) (ha : Adm {} evs) :
    ∀ e ∈ (run {} evs).firedNow, e.1 = (run {} evs).gameCount ∧
      e.2.map (·.id) = (run {} evs).parts.map (·.id) ∧ e.2.all (·.ready) = true :=
  (inv_run {} evs inv_init ha).reportOK

theorem C09_supersede (s : St) (gc : Nat) (ps : List (Nat × Int)) :
    (step s (.setup gc ps)).firedNow = [] ∧ (step s (.setup gc ps)).gameCount = gc ∧
    (step s (.setup gc ps)).parts.map (·.id) = ps.map (·.1) := by
  simp [step, List.map_map, Function.comp_def]

/-- **C09 — a signal from an unknown participant is rejected and changes nothing.** -/
theorem C09_unknown (s : St) (id : Nat) (h : knows s id = false) : step s (.ready id) = s := by
  rw [step, List.find?_eq_none.2 (List.any_eq_false.1 h)]

/-- whoever signals, known or not, the participants afterwards are the old ones with that id flagged -/
theorem ready_parts (s : St) (id : Nat) :
    (step s (.ready id)).parts = s.parts.map (fun q => if q.id == id then { q with ready := true } else q) := by
  simp only [step]
  split
  · rename_i h
    exact (List.map_congr_left fun q hq => if_neg (List.find?_eq_none.mp h q hq)).trans (List.map_id _) |>.symm
  · rfl

/-- a repeated signal changes nothing observable once the first one has been consumed: the participant is ready
already, the group's entry is set already, and nothing completes twice (`C09_once`) -/
theorem C09_repeat_flags (s : St) (id : Nat) :
    (step (step s (.ready id)) (.ready id)).parts = (step s (.ready id)).parts := by
  rw [ready_parts, ready_parts, List.map_map]
  exact List.map_congr_left fun q _ => by by_cases hq : q.id = id <;> simp [hq]

/-! Without the two hypotheses the statement fails: the schedules the stress run found, as model-level witnesses. -/

/-- D18a: the old completion runs after the next `Setup` and reports set-up 2 although nobody of it signalled -/
theorem C09_not_early_fails_on_witness_stale_completion :
    (run {} w1).fired.map (·.1) = [2] ∧ fireOK (run {} (w1.dropLast)) = false := w1_fails
/-- D18b: a queued action of set-up 1 lands on index 0 of set-up 2: fires after one of two signalled -/
theorem C09_not_early_fails_on_witness_stale_action :
    (run {} w2).fired.map (·.1) = [2] ∧ fireOK (run {} (w2.dropLast)) = false := w2_fails
/-- D13: two ids sharing one index alias in the ReadyGroup -/
theorem C09_not_early_fails_on_witness_shared_index :
    (run {} w3).fired.map (·.1) = [1] ∧ fireOK (run {} (w3.dropLast)) = false := w3_fails

/-- D24: a gate rebuilt from a saved state in which everybody was ready (it had fired already) fires again on a repeated
signal — the original would not: "a gate rebuilt from a saved state behaves like the original" fails here, because
`NewOpenGameManagerFromState` re-adds the ready participants straight into the group's map and the group's
completed flag is not part of the saved state -/
def wRebuilt : List Ev :=
  [.setup 1 [(10, 0), (11, 1)], .ready 10, .ready 11, .consume, .consume, .complete]

theorem C09_from_state_fails_on_witness :
    -- the original: fired once, a repeated signal changes nothing
    (run {} wRebuilt).fired.length = 1 ∧ (drain (step (run {} wRebuilt) (.ready 10))).fired.length = 1 ∧
    -- rebuilt from its saved state: the same repeated signal fires
    (drain (step (step (run {} wRebuilt) (.fromState 1 [(10, 0, true), (11, 1, true)])) (.ready 10))).fired.length = 1 ∧
    (step (run {} wRebuilt) (.fromState 1 [(10, 0, true), (11, 1, true)])).fired.length = 0 := by decide +kernel

-- non-vacuity: an admissible history that really reaches a pending completion, and one that fires
example : Adm {} [.setup 1 [(10, 0), (11, 1)], .ready 11, .ready 10, .consume, .consume] ∧
    0 < (run {} [.setup 1 [(10, 0), (11, 1)], .ready 11, .ready 10, .consume, .consume]).pending := by
  refine ⟨?_, by decide +kernel⟩
  simp [Adm, EvOK, Quiet]

example : Adm {} [.setup 3 [(10, 0), (11, 1)], .ready 11, .timeout, .consume, .consume, .complete] ∧
    (run {} [.setup 3 [(10, 0), (11, 1)], .ready 11, .timeout, .consume, .consume, .complete]).firedNow.map (·.1) = [3] := by
  refine ⟨?_, by decide +kernel⟩
  simp [Adm, EvOK, Quiet]

end OGM
