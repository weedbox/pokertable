import PokerVerif.Lemmas.TBCycle
import PokerVerif.Examples.TB
/-!
# C07 — Table status follows its life cycle; one hand at a time; hands are numbered

Statement: left to itself the status only moves created/balancing/pausing → opened → playing → settled → standby
→ (opened | pausing); each opened hand raises the game count by exactly one (fresh game id: the backend's,
monitored); a new hand never opens while another is unsettled; between hands the per-hand fields are reset.  No
hand opens after the table has been closed or released between hands, while the blind level is a break, or before
blinds are set.

Theorems are about `TB.gateFire` (gate callback → tableGameOpen → openGame → startGame), `TB.settle`,
`TB.continueGame` and the other steps of the `TB` model, for every state.
-/
namespace TB

/-- **C07 — no hand opens after close or release, while a hand is unsettled, on a break level, or before blinds
are set**; nothing changes at all then (but the gate's ready flags). -/
theorem C07_no_open_when (s : State) (choice : Option Int) (createOk : Bool)
    (h : s.released = true ∨ s.status = .closed ∨ s.hasGame = true ∨ s.blind.isBreaking = true ∨ s.blind.isSet = false) :
    (gateFire s choice createOk).2 ≠ .opened ∧ (gateFire s choice createOk).2 ≠ .startFailed ∧
    (gateFire s choice createOk).1 = gateReady s := by
  rcases gateFire_cases s choice createOk with ⟨o, hf, ho⟩ | ⟨hg, _⟩
  · rw [hf]
    rcases ho with rfl | rfl <;> exact ⟨nofun, nofun, rfl⟩
  · -- the guards have passed: none of the five holds
    obtain ⟨_, h1, h2, h3, h4, h5⟩ := (openGuard_go _).mp hg
    rcases h with h | h | h | h | h
    · cases h.symm.trans h1
    · exact absurd h h2
    · cases h.symm.trans h3
    · cases h.symm.trans h5
    · cases h.symm.trans h4

/-- **C07 — each opened hand raises the game count by exactly one, goes to `playing` and carries a hand; it opens
only when no hand is unsettled, the table is neither closed nor released, and the blinds are set and not a break.** -/
theorem C07_open_counts (s : State) (choice : Option Int) (createOk : Bool)
    (h : (gateFire s choice createOk).2 = .opened) :
    (gateFire s choice createOk).1.gameCount = s.gameCount + 1 ∧
    (gateFire s choice createOk).1.status = .playing ∧ (gateFire s choice createOk).1.hasGame = true ∧
    s.hasGame = false ∧ s.released = false ∧ s.status ≠ .closed ∧ s.blind.isBreaking = false ∧ s.blind.isSet = true := by
  obtain ⟨hg, heq⟩ := gateFire_opened s choice createOk h
  obtain ⟨_, h1, h2, h3, h4, h5⟩ := (openGuard_go _).mp hg
  rw [heq] at h ⊢
  obtain ⟨c2, c3, c1, _⟩ := openCore_opened _ _ _ h
  simp only [gateReady] at h1 h2 h3 h4 h5 c1
  exact ⟨c1, c2, c3, h3, h1, h2, h5, h4⟩

/-- a turn of `tableGameOpen`'s retry loop waits 3 s and then looks whether the table was closed or released meanwhile,
before anything else (regenerated from table_engine_stage.go) — `TB.retryOpen`'s first test -/
theorem C07_retry_head_fact : Facts.retryLoopHead =
    ["time.Sleep(time.Second * 3)", "if te.isReleased || te.table.State.Status == TableStateStatus_TableClosed { return nil }"] := rfl

/-- **C07 — the retry loop opens no hand on a closed or released table, on a break, before blinds are set, or once the
table shows a hand**: a turn of `tableGameOpen`'s retry loop (3 s after a refused attempt, lock held) then changes nothing
at all.  (Closed / released: D32, fixed — the loop did not look.) -/
theorem C07_retry_no_open_when (s : State) (choice : Option Int) (createOk : Bool)
    (h : s.released = true ∨ s.status = .closed ∨ inHandStatus s.status = true ∨ s.blind.isBreaking = true ∨ s.blind.isSet = false) :
    (retryOpen s choice createOk).2 ≠ .opened ∧ (retryOpen s choice createOk).2 ≠ .startFailed ∧
    (retryOpen s choice createOk).1 = s := by
  rcases retryOpen_cases s choice createOk with ⟨_, hc, ho⟩ | ⟨h1, h2, h3, h4, h5, _⟩
  · rw [hc]
    rcases ho with rfl | rfl <;> exact ⟨nofun, nofun, rfl⟩
  · exfalso
    rcases h with h | h | h | h | h
    · rw [h] at h1; cases h1
    · exact h2 h
    · rw [h] at h3; cases h3
    · rw [h] at h5; cases h5
    · rw [h] at h4; cases h4

/-- **C07 — a hand opened by the retry loop** raises the game count by exactly one, goes to `playing` and carries a hand;
it opens only when the table is neither closed nor released, shows no hand status and the blinds are set and not a break. -/
theorem C07_retry_open_counts (s : State) (choice : Option Int) (createOk : Bool)
    (h : (retryOpen s choice createOk).2 = .opened) :
    (retryOpen s choice createOk).1.gameCount = s.gameCount + 1 ∧
    (retryOpen s choice createOk).1.status = .playing ∧ (retryOpen s choice createOk).1.hasGame = true ∧
    s.released = false ∧ s.status ≠ .closed ∧
    inHandStatus s.status = false ∧ s.blind.isBreaking = false ∧ s.blind.isSet = true := by
  rcases retryOpen_cases s choice createOk with ⟨_, hc, ho⟩ | ⟨h1, h2, h3, h4, h5, hc⟩
  · rw [hc] at h; rcases ho with rfl | rfl <;> cases h
  · rw [hc] at h ⊢
    obtain ⟨c2, c3, c1, _⟩ := openCore_opened _ _ _ h
    exact ⟨c1, c2, c3, h1, h2, h3, h5, h4⟩

/-- **C07 — no hand opens after the table has been closed or released, whatever happens next**: from a released table
(`CloseTable` releases the table too) no history of any length — arrivals, sit-ins, top-ups, level changes, gate set-ups and
firings, turns of the retry loop, settlements of a hand still running, the continue step, … — raises the game count, and
the table stays released. -/
theorem C07_closed_for_good (s : State) (evs : List Event) (h : s.released = true) :
    (run s evs).released = true ∧ (run s evs).gameCount = s.gameCount :=
  run_induct (P := fun t => t.released = true ∧ t.gameCount = s.gameCount) (evOK := fun _ _ => True)
    (histOK := fun _ _ => True) (fun _ _ _ _ => ⟨trivial, trivial⟩)
    (fun t e w _ => ⟨(step_released t e w.1).1, (step_released t e w.1).2.trans w.2⟩) s evs
    ⟨h, rfl⟩ trivial

/-- … in particular after `CloseTable` / `ReleaseTable` at any moment of any history -/
theorem C07_after_close (s : State) (evs : List Event) :
    (run (close s) evs).gameCount = s.gameCount ∧ (run (release s) evs).gameCount = s.gameCount :=
  ⟨(C07_closed_for_good (close s) evs rfl).2, (C07_closed_for_good (release s) evs rfl).2⟩

/-- **C07 — the game count changes at no other step**: a fire that does not open, a settlement, the continue step
and every administrative operation leave it alone. -/
theorem C07_count_elsewhere (s : State) :
    (∀ ch ok, (gateFire s ch ok).2 = .nothing ∨ (gateFire s ch ok).2 = .refused → (gateFire s ch ok).1.gameCount = s.gameCount) ∧
    (∀ r, (settle s r).1.gameCount = s.gameCount) ∧
    (∀ e, (continueGame s e).1.gameCount = s.gameCount) ∧
    (pause s).gameCount = s.gameCount ∧ (close s).gameCount = s.gameCount ∧ (release s).gameCount = s.gameCount ∧
    (∀ b, (setBlind s b).gameCount = s.gameCount) ∧ (∀ gc ps, (setup s gc ps).gameCount = s.gameCount) := by
  refine ⟨?_, ?_, ?_, rfl, rfl, rfl, fun _ => rfl, fun _ _ => rfl⟩
  · intro ch ok h
    rcases gateFire_cases s ch ok with ⟨_, hf, _⟩ | ⟨_, hf⟩
    · rw [hf]; rfl
    · rw [hf] at h ⊢
      -- `openCore` never answers `.nothing`, and `.refused` only where it has written nothing but the seat manager
      rcases openCore_cases (gateReady s) ch ok with ⟨h1, _⟩ | ⟨_, _, _, _, _, _, _, ⟨_, h' | h'⟩ | h'⟩
      · rw [h1]; rfl
      all_goals rw [h'] at h; rcases h with h | h <;> cases h
  · intro r
    obtain ⟨_, _, h, _⟩ := settle_shape s r
    rw [h]
  · intro e
    obtain ⟨_, _, _, _, _, h, _⟩ := continueGame_shape s e
    rw [h]

/-- **C07 — settlement puts the table into `settled`.** -/
theorem C07_settle_status (s : State) (r : List (Nat × Int)) : (settle s r).1.status = .settled := by
  obtain ⟨_, _, h, _⟩ := settle_shape s r
  rw [h]

/-- **C07 — the continue step leaves the table in `standby` or `pausing` and resets the per-hand fields** (hand
state, the hand's player list, next-BB list). -/
theorem C07_reset (s : State) (e : Bool) :
    ((continueGame s e).1.status = .standby ∨ (continueGame s e).1.status = .pausing) ∧
    (continueGame s e).1.hasGame = false ∧ (continueGame s e).1.gidx = [] ∧ (continueGame s e).1.nextBB = [] := by
  obtain ⟨_, _, _, _, _, h, hst, _⟩ := continueGame_shape s e
  rw [h]
  exact ⟨hst, rfl, rfl, rfl⟩

-- non-vacuity: a concrete table on which a hand opens, and the same table closed between hands
example : (gateFire exTable (some 0) true).2 = .opened ∧ (gateFire exTable (some 0) true).1.gameCount = 1 ∧
    (gateFire (close exTable) (some 0) true).2 = .nothing := by decide +kernel

/-- **C07 — the status only ever moves along the life cycle, one event at a time.**  For every state that holds a hand
whenever its status says so (`LCInv`, an invariant — see `C07_life_cycle`) and every one of the 19 event kinds other than
an external pause / close, coming when the engine produces it (`Timely`: the back end closes a hand that is being played,
the continue step follows the settlement): the status afterwards is the status before, or its successor
created / balancing / pausing / standby → opened → playing → settled → standby → (opened | pausing) (`lcNext`; the gate's
callback takes the two steps → opened → playing under one hold of the lock, the continue step without an interval the two
steps settled → standby → pausing). -/
theorem C07_life_cycle_step (s : State) (e : Event) (hi : LCInv s) (ht : Timely s e) :
    lcNext s.status (step s e).status = true ∧ LCInv (step s e) :=
  step_lifeCycle s e hi ht

/-- **C07 — … along every history of a table left to itself, of any length, from `CreateTable` on**: whatever membership
calls, top-ups, level changes, gate set-ups, signals, firings, retry turns, settlements and continue steps follow one
another, each status is the previous one or its successor in the cycle. -/
theorem C07_life_cycle (cfg : Meta) (b : Blind) (evs : List Event) (ht : AllTimely (create cfg b) evs) :
    ∀ pre e post, evs = pre ++ e :: post →
      lcNext (run (create cfg b) pre).status (run (create cfg b) (pre ++ [e])).status = true :=
  (run_lifeCycle (create cfg b) evs (create_lcInv cfg b) ht).2

/-- **C07 — calls that are not part of the cycle never move the status**: arrivals, sit-ins, top-ups, departures, batch
updates, level changes, release, start, the gate's set-up and signals, the auto-join completion. -/
theorem C07_status_moved_by_the_cycle_only (s : State) :
    (∀ j ch, (reserve s j ch).1.status = s.status) ∧ (∀ id, (join s id).1.status = s.status) ∧
    (∀ id c, (redeem s id c).1.status = s.status) ∧ (∀ ids, (batchRemove s ids).1.status = s.status) ∧
    (∀ js lv ch, (update s js lv ch).1.status = s.status) ∧ (∀ b, (setBlind s b).status = s.status) ∧
    (release s).status = s.status ∧ (start s).status = s.status ∧ (∀ gc ps, (setup s gc ps).status = s.status) ∧
    (∀ id, (finish s id).1.status = s.status) ∧ (autoJoinStale s).status = s.status :=
  ⟨fun j ch => (outside_cycle s (.reserve j ch) trivial).1, fun id => (outside_cycle s (.join id) trivial).1,
   fun id c => (outside_cycle s (.redeem id c) trivial).1, fun ids => (outside_cycle s (.leave ids) trivial).1,
   fun js lv ch => (outside_cycle s (.update js lv ch) trivial).1, fun _ => rfl, rfl, rfl, fun _ _ => rfl,
   fun id => (outside_cycle s (.finish id) trivial).1, (outside_cycle s .autojoin trivial).1⟩

/-- **C07 — a new hand never opens while another is unsettled, as a statement about the status**: the gate's callback on a
table that is `playing` or `settled` (and holds its hand) changes neither status nor count. -/
theorem C07_no_second_hand (s : State) (ch : Option Int) (ok : Bool) (hi : LCInv s)
    (hp : s.status = .playing ∨ s.status = .settled) :
    (gateFire s ch ok).2 = .nothing ∧ (gateFire s ch ok).1.status = s.status ∧
    (gateFire s ch ok).1.gameCount = s.gameCount := by
  rw [gateFire, openGuard_held (gateReady s) (hi hp)]
  exact ⟨rfl, rfl, rfl⟩

-- non-vacuity: a whole turn of the cycle on the example table is a timely history; its statuses are the cycle's
example : AllTimely (create exCfg exBlind) exCycle := by decide +kernel
example : (exCycle.foldl (fun (acc : State × List Status) e => (step acc.1 e, acc.2 ++ [(step acc.1 e).status]))
    (create exCfg exBlind, [])).2 =
    [.created, .created, .created, .created, .created, .created, .playing, .playing, .settled, .standby, .standby,
     .standby, .standby, .playing] := by decide +kernel
example : LCInv exTable ∧ LCInv (gateFire exTable (some 0) true).1 ∧
    (gateFire exTable (some 0) true).1.status = .playing := by decide +kernel

/-- the delayed handler of `continueGame` looks for a closed, then for a released table *when it runs* — its first two
statements (regenerated from table_engine_stage.go); `nextMove` does the same -/
theorem C07_continue_handler_head_fact : Facts.continueHandlerHead =
    ["if te.table.State.Status == TableStateStatus_TableClosed { return nil }", "if te.isReleased { return nil }"] := rfl

/-- with a continue interval the continue step is two happenings — `continueGame` up to arming the timer, and the delayed
handler — and other calls may land in between; with nothing in between they are the one-piece step -/
theorem C07_continue_is_reset_then_tick (s : State) (ex : Bool) (hok : (continueGame s ex).2 ≠ .failed) :
    step (step s .contReset) (.tick ex) = step s (.continue ex) := by
  show (nextMove (continueGame s true).1 ex).1 = (continueGame s ex).1
  unfold continueGame at hok ⊢
  cases hr : refreshPlayers s.sm s.players with
  | none => simp [hr] at hok
  | some r =>
    obtain ⟨sm, ps⟩ := r
    simp only
    have : (nextMove { resetHand s with sm := sm, players := ps } true) = ({ resetHand s with sm := sm, players := ps }, .nothing) := by
      unfold nextMove; simp
    rw [this]

/-- **C07 — a table closed or released inside the continue interval is left alone by the delayed handler**: it neither
pauses the table nor sets the next hand up, whatever the players' chips and the blind level -/
theorem C07_closed_in_the_interval (s : State) (ex : Bool) :
    step (step s .close) (.tick ex) = step s .close ∧ step (step s .release) (.tick ex) = step s .release := by
  constructor
  · show (nextMove (close s) ex).1 = close s
    unfold nextMove close; cases ex <;> simp
  · show (nextMove (release s) ex).1 = release s
    unfold nextMove release
    cases ex
    · by_cases hc : (s.status == Status.closed) = true <;> simp [hc]
    · simp

end TB
