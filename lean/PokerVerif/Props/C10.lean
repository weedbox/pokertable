import PokerVerif.Lemmas.HDBasic
import PokerVerif.Examples.HD
/-!
# C10 — Only the player whose turn it is can act; refused actions leave no trace

Statement: a game action (fold, check, call, bet, raise, all-in, pass, ready, pay) is accepted only from a player the
hand is waiting on and only if the hand currently allows that action for them; anything else — an action out of
turn, of a kind not allowed, by a player not dealt in or not at the table, or while no hand is being played — returns
an error and changes neither the table nor the hand.  An accepted action is applied once and is published as the
table's last player action and as an action event naming that player, seat, action, round and hand.

Theorems are about `HD.act` (validateGameMove → Player<Action> → game.<Action> → backend), for every state, caller,
action, amount and backend outcome.  Which wager actions the hand allows is pokerface's decision: an accepted wager
action is one the backend accepted (`Oracle.ok`), and `PF.accepts` — monitored against the real engine on every
action of every run — says the backend accepts only kinds in the caller's allowed list.  The guards of `game.Pass`,
`validatePlayMove`, `validateActionMove` and `validateGameMove` are tied to the source as regenerated facts.
Reading of the last sentence: the code publishes an action *event* for pass and the six wager actions and only the
last-action record for `ready` / `pay` (antes and blinds are announced collectively when collected).
-/
namespace HD

/-- the guards in the source are the ones the model transcribes (regenerated from game.go / table_engine_internal.go) -/
theorem C10_guard_facts :
    Facts.validateGameMoveBody =
      ["if te.table.State.Status != TableStateStatus_TableGamePlaying { return ErrTablePlayerInvalidGameAction }",
       "if gamePlayerIdx == UnsetValue { return ErrTablePlayerNotFound }", "return nil"] ∧
    Facts.gameValidatePlayMove =
      ["if p := g.gs.GetPlayer(playerIdx); p == nil { return ErrGamePlayerNotFound }",
       "if g.gs.Status.CurrentPlayer != playerIdx { return ErrGameInvalidAction }", "return nil"] ∧
    Facts.gameValidateActionMove =
      ["if p := g.gs.GetPlayer(playerIdx); p == nil { return ErrGamePlayerNotFound }",
       "if !g.gs.HasAction(playerIdx, action) { return ErrGameInvalidAction }",
       "if g.rg == nil { return ErrGameInvalidAction }", "return nil"] ∧
    Facts.gamePassBody.take 2 =
      ["if err := g.validatePlayMove(playerIdx); err != nil { return g.GetGameState(), err }",
       "if !g.gs.HasAction(playerIdx, \"pass\") { return g.GetGameState(), ErrGameInvalidAction }"] ∧
    (["PlayerAllin", "PlayerBet", "PlayerCall", "PlayerCheck", "PlayerFold", "PlayerPass", "PlayerPay", "PlayerRaise", "PlayerReady"].all
      (fun m => Facts.teLocked.contains m)) = true := ⟨rfl, rfl, rfl, rfl, by decide +kernel⟩

/-- **C10 — accepted only from a player the hand is waiting on, and only what the hand allows**: an accepted action
was submitted while a hand is being played, by a player of the hand; `ready` / `pay` only if the hand allows it for
that player; every other action only by the player whose turn it is, `pass` only if allowed, and only after the hand
engine itself accepted it. -/
theorem C10_accept_sound (s : State) (id : Nat) (kind : String) (arg : Int) (o : Oracle)
    (h : (act s id kind arg o).2 = .ok) :
    s.playing = true ∧ ∃ gi v, findIdx s.hand id = some gi ∧ s.view = some v ∧ (v.player gi).isSome = true ∧
      ((kind = "ready" ∨ kind = "pay") → v.hasAction gi kind = true) ∧
      (¬(kind = "ready" ∨ kind = "pay") → v.cur = (gi : Int) ∧ (kind = "pass" → v.hasAction gi "pass" = true) ∧ ∃ nr, o = .ok nr) := by
  obtain ⟨e, he⟩ | ⟨gi, v, _, _, _, hp, hi, _, hv, hs, hr, hw⟩ := act_cases s id kind arg o
  · rw [he] at h; cases h
  · exact ⟨hp, gi, v, hi, hv, hs, fun hk => (hr hk).1, fun hk => let ⟨hc, hps, _, nr, ho, _⟩ := hw hk; ⟨hc, hps, nr, ho⟩⟩

/-- … and, under the pokerface contract (the backend accepts a wager action only if `PF.accepts`), the action is in
the caller's allowed list -/
theorem C10_accepted_is_allowed (s : State) (id : Nat) (kind : String) (arg : Int) (o : Oracle)
    (h : (act s id kind arg o).2 = .ok) (hw : kind ≠ "pass") (hk : ¬(kind = "ready" ∨ kind = "pay"))
    (contract : ∀ gi v p, findIdx s.hand id = some gi → s.view = some v → v.players[gi]? = some p →
      (∃ nr, o = .ok nr) → PF.accepts v p kind arg = true) :
    ∃ gi v p, findIdx s.hand id = some gi ∧ s.view = some v ∧ v.players[gi]? = some p ∧ p.allowed.contains kind = true := by
  obtain ⟨_, gi, v, hi, hv, hs, _, hplay⟩ := C10_accept_sound s id kind arg o h
  rw [View.player_natCast] at hs
  obtain ⟨p, hp⟩ := Option.isSome_iff_exists.1 hs
  have hacc := contract gi v p hi hv hp (hplay hk).2.2
  refine ⟨gi, v, p, hi, hv, hp, ?_⟩
  -- `PF.accepts` for a kind other than pass: refused at once unless the kind is in the allowed list
  unfold PF.accepts at hacc
  rw [if_neg (by simpa using hw)] at hacc
  by_cases hc : p.allowed.contains kind = true
  · exact hc
  · rw [if_pos (by simpa using hc)] at hacc; cases hacc

/-- **C10 — anything else returns an error and changes neither the table nor the hand.** -/
theorem C10_reject_no_trace (s : State) (id : Nat) (kind : String) (arg : Int) (o : Oracle) (e : Err)
    (h : (act s id kind arg o).2 = .err e) : (act s id kind arg o).1 = s :=
  act_refused (by rw [h]; exact nofun)

/-- the named refusals: no hand being played; not at the table / not dealt in; out of turn; kind not allowed -/
theorem C10_refusals (s : State) (id : Nat) (kind : String) (arg : Int) (o : Oracle) :
    (s.playing = false → act s id kind arg o = (s, .err .invalidGameAction)) ∧
    (s.playing = true → findIdx s.hand id = none → act s id kind arg o = (s, .err .playerNotFound)) := by
  constructor
  · intro h; unfold act; simp [h]
  · intro h1 h2; unfold act; simp [h1, h2]

/-- an accepted action is recorded under the hand state it produced — `createPlayerGameAction` reads the hand id and the
round from the state the action returned (`gs`), not from the live hand state, which the hand's own goroutine may already
have moved on (D33; regenerated from table_engine_internal.go) -/
theorem C10_action_record_fact : Facts.actionRecordReads = ["pga.GameID = gs.GameID", "pga.Round = gs.Status.Round"] :=
  rfl

/-- **C10 — an accepted action is applied once and published**: it becomes the table's last player action naming
that player, seat, action, round and hand; pass and the wager actions are also emitted as exactly one action event
carrying the same record; the log of accepted actions grows by exactly this one. -/
theorem C10_publish (s : State) (id : Nat) (kind : String) (arg : Int) (o : Oracle)
    (h : (act s id kind arg o).2 = .ok) :
    ∃ gi v, findIdx s.hand id = some gi ∧ s.view = some v ∧
      (act s id kind arg o).1.last = some (mkLast s v id gi kind arg) ∧
      (mkLast s v id gi kind arg).id = id ∧ (mkLast s v id gi kind arg).seat = seatOfId s id ∧
      (mkLast s v id gi kind arg).action = kind ∧ (mkLast s v id gi kind arg).round = v.round ∧
      (mkLast s v id gi kind arg).gc = s.gc ∧ (mkLast s v id gi kind arg).gid = v.gid ∧
      (act s id kind arg o).1.log = s.log ++ [(id, kind, v.round)] ∧
      (act s id kind arg o).1.events =
        (if kind = "ready" ∨ kind = "pay" then s.events else s.events ++ [mkLast s v id gi kind arg]) := by
  obtain ⟨e, he⟩ | ⟨gi, v, isR, emit, he, _, hi, _, hv, _, hr, hw⟩ := act_cases s id kind arg o
  · rw [he] at h; cases h
  · rw [he]
    refine ⟨gi, v, hi, hv, rfl, rfl, rfl, rfl, rfl, rfl, rfl, rfl, ?_⟩
    show (if emit = true then _ else _) = _
    by_cases hk : kind = "ready" ∨ kind = "pay"
    · rw [if_pos hk, (hr hk).2.2]; rfl
    · rw [if_neg hk, (hw hk).2.2.1]; rfl

-- non-vacuity: a three-player hand at a preflop decision point
example : (act exState 12 "call" 0 (.ok 2)).2 = .ok ∧ (act exState 13 "call" 0 (.ok 2)).2 = .err .gameInvalidAction ∧
    (act exState 14 "fold" 0 .none).2 = .err .playerNotFound ∧ (act exState 12 "pass" 0 (.ok 2)).2 = .err .gameInvalidAction ∧
    ((act exState 12 "call" 0 (.ok 2)).1.last.map (fun l => (l.id, l.seat, l.action, l.round, l.chips, l.gc))) = some (12, 0, "call", "preflop", 20, 3) := by
  decide +kernel

end HD
