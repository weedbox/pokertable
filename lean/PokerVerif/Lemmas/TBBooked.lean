import PokerVerif.Lemmas.TBSeats
import PokerVerif.Lemmas.TBFrame
/-!
# Which operations touch the seat bookkeeping at all

`SeatsEq a b`: same seat map, and the player lists agree seat by seat.  Every operation of the table other than an
arrival (`batchAddPlayers`) and a departure (`batchRemovePlayers`) is `SeatsEq` to its input — so the seat bookkeeping
(`MapTight`) can only be touched by those two.  `calm_keeps` says it for any view of a player and of a seat-manager
occupant at once: `SeatsEq` here, `Quiet` (TBAgree) and `QuietF` (TBFlags) later are read off it.
-/
namespace TB

def SeatsEq (a b : State) : Prop :=
  a.seatMap = b.seatMap ∧ a.players.map (·.seat) = b.players.map (·.seat) ∧ a.cfg = b.cfg

theorem calm_seatsEq (s : State) (e : Event) (h : Calm s e) : SeatsEq (step s e) s :=
  have k := calm_keeps s e h
  ⟨k.seatMap, k.players (·.seat) (.inr fun _ _ => rfl) (fun _ _ => rfl) (.inr fun _ _ => rfl), k.cfg⟩

/-- what the table relies on at an arrival: the seats the seat manager has given the new players are seats the table
shows free, one each (the agreement of seat manager and table about free seats — the other half of C03's invariant,
evaluated on every observed state by the monitor `c03Inv`) -/
def ArrivalOK (s : State) (js : List Join) (ch : List Int) : Prop :=
  (batchAdd s js ch).2 = .ok →
    (∀ j ∈ js, seatMapGet s.seatMap (SM.seatOf (batchAdd s js ch).1.sm j.id) = some (-1)) ∧
    js.Pairwise (fun a b => SM.seatOf (batchAdd s js ch).1.sm a.id ≠ SM.seatOf (batchAdd s js ch).1.sm b.id)

instance (s : State) (js : List Join) (ch : List Int) : Decidable (ArrivalOK s js ch) := by
  unfold ArrivalOK; exact inferInstance

/-- the seat bookkeeping as an invariant of one step -/
def Booked (s : State) : Prop := MapTight s.seatMap s.players ∧ s.seatMap.length = s.cfg.maxSeat

theorem Booked.seat_range {s : State} (hb : Booked s) {p : Player} (hp : p ∈ s.players) : 0 ≤ p.seat ∧ p.seat < s.cfg.maxSeat := by
  obtain ⟨i, hi⟩ := List.mem_iff_getElem?.mp hp
  have := seatMapGet_range s.seatMap p.seat _ (hb.1.1.players i p hi)
  rwa [hb.2] at this

theorem batchAdd_booked (s : State) (js : List Join) (ch : List Int) (h : Booked s) (ha : ArrivalOK s js ch) :
    Booked (batchAdd s js ch).1 := by
  rcases batchAdd_cases s js ch with ⟨_, _, h', _⟩ | ⟨sm', ps, m, hap, h'⟩
  · rw [h']; exact h
  · obtain ⟨hf, hp⟩ := ha (by rw [h'])
    rw [h'] at hf hp ⊢
    obtain ⟨w1, w2⟩ := appendPlayers_tight sm' js s.players s.seatMap h.1 hf hp ps m hap
    exact ⟨w1, w2.trans h.2⟩

/-- the arrival condition of one event (departures of a batch update come first) -/
def EventArrivalOK (s : State) : Event → Prop
  | .reserve j ch => findPlayerIdx s j.id = none → ArrivalOK s [j] ch
  | .update js lv ch => ArrivalOK (if lv.isEmpty then s else (batchRemove s lv).1) js ch
  | _ => True

def ArrivalsOK : State → List Event → Prop
  | _, [] => True
  | s, e :: t => EventArrivalOK s e ∧ ArrivalsOK (step s e) t

theorem SeatsEq.booked {a b : State} (h : SeatsEq a b) (w : Booked b) : Booked a := by
  rw [Booked, h.1, h.2.2]
  exact ⟨⟨MapWF.of_seats _ _ _ h.2.1 w.1.1, w.1.2⟩, w.2⟩

theorem batchRemove_booked (s : State) (ids : List Nat) (h : Booked s) : Booked (batchRemove s ids).1 := by
  rcases batchRemove_cases s ids with ⟨_, h'⟩ | ⟨h', _⟩ | ⟨m, _, _, hm, _, h'⟩ <;> rw [h']
  · exact h
  · exact h
  · exact rebuild_tight s.cfg.maxSeat _ ((MapTight.seats_distinct _ _ h.1).filter _) m hm

theorem step_booked (s : State) (e : Event) (h : Booked s) (ha : EventArrivalOK s e) : Booked (step s e) := by
  refine step_induct (arrive := ArrivalOK) (depart := fun _ _ => True) batchAdd_booked
    (fun s ids h _ => batchRemove_booked s ids h) h ?_ fun hc => (calm_seatsEq s e hc).booked h
  cases e with
  | leave ids => trivial
  | update js lv ch => exact ⟨fun _ => trivial, ha⟩
  | _ => exact ha

theorem run_booked (s : State) (evs : List Event) (h : Booked s) (ha : ArrivalsOK s evs) : Booked (run s evs) :=
  run_induct (fun _ _ _ h => h) step_booked s evs h ha

theorem create_booked (cfg : Meta) (b : Blind) : Booked (create cfg b) :=
  ⟨mapTight_default cfg.maxSeat, by simp [create, defaultSeatMap]⟩

end TB
