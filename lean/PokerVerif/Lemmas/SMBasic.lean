import PokerVerif.SM
import PokerVerif.SMSpec
/-! Helper lemmas about the seat-manager model: what the small definitions say (`inRange_iff`, `updAt_apply`, `reflag_apply`, …),
lists without repetition, scans, counts, modular arithmetic, re-flagging. -/
namespace SM

-- What the scan operands are expected to be: `rfl` against what /verif/extract read from the source *now*; an edit of a scan
-- operand breaks them.
theorem facts_nextAliveMod (m : Int) : Facts.nextAliveMod m = m := rfl
theorem facts_nextActiveMod (m : Int) : Facts.nextActiveMod m = m := rfl
theorem facts_prevAliveMod (m : Int) : Facts.prevAliveMod m = m := rfl
theorem facts_prevAliveAdd (m : Int) : Facts.prevAliveAdd m = m := rfl
theorem facts_prevOccMod (m : Int) : Facts.prevOccMod m = m := rfl
theorem facts_prevOccAdd (m : Int) : Facts.prevOccAdd m = m := rfl
theorem facts_scansRecognised : Facts.scansRecognised = true := rfl

theorem inRange_iff (st : State) (i : Int) : inRange st i = true ↔ 0 ≤ i ∧ i < st.maxSeat := by
  rw [inRange, Bool.and_eq_true, decide_eq_true_iff, decide_eq_true_iff]

theorem occupiedByOther_inRange (st : State) (id : Nat) (seat : Int) (h : inRange st seat = true) :
    occupiedByOther st id seat = (st.seats seat).any (·.id != id) := by
  rw [occupiedByOther, seatAt, if_pos h]
  cases st.seats seat <;> rfl

theorem updAt_apply (s : Seats) (k : Int) (f : SeatPlayer → SeatPlayer) (i : Int) :
    updAt s k f i = if i = k then (s i).map f else s i := by
  unfold updAt
  cases s i <;> rfl

theorem reflag_apply (n : Nat) (d b : Int) (s : Seats) (i : Int) :
    reflag n d b s i = (s i).map fun p => if p.active then p else { p with between := isBetween n d b i } := by
  unfold reflag
  cases s i with
  | none => rfl
  | some p => exact (apply_ite some _ _ _).symm

/-- a Bool test of a seat is `Option.any` of the test of its occupant (as in `occupiedByOther_inRange`); that it holds is
then `Option.any_eq_true`: somebody sits there and passes -/
theorem aliveAt_eq (s : Seats) (i : Int) : aliveAt s i = (s i).any (·.alive) := by
  unfold aliveAt; cases s i <;> rfl

theorem activeAt_eq (s : Seats) (i : Int) : activeAt s i = (s i).any (·.active) := by
  unfold activeAt; cases s i <;> rfl

theorem pairwise_inj {α β : Type} (f : α → β) (l : List α) (h : l.Pairwise (fun a c => f a ≠ f c)) :
    ∀ a ∈ l, ∀ c ∈ l, f a = f c → a = c := fun _ ha _ hc =>
  List.Pairwise.forall_of_forall_of_flip (R := fun a c => f a = f c → a = c) (fun _ _ _ => rfl)
    (h.imp fun hne hf => absurd hf hne) (h.imp fun hne hf => absurd hf.symm hne) ha hc

/-- a Bool-valued recursion that rejects a list as soon as its head occurs later says that no two elements are equal
(the model has one such recursion for ids and one for seats) -/
theorem noLater_pairwise {α : Type} [BEq α] [LawfulBEq α] (f : List α → Bool) (hnil : f [] = true)
    (hcons : ∀ x t, f (x :: t) = (!(t.contains x) && f t)) (l : List α) : f l = true ↔ l.Pairwise (· ≠ ·) := by
  induction l with
  | nil => exact ⟨fun _ => .nil, fun _ => hnil⟩
  | cons x t ih =>
    rw [hcons, Bool.and_eq_true, Bool.not_eq_true', List.contains_eq_mem, decide_eq_false_iff_not, ih, List.pairwise_cons]
    exact and_congr_left fun _ => ⟨fun h y hy hxy => h (hxy ▸ hy), fun h hx => h x hx rfl⟩

theorem allDistinct_iff (l : List Nat) : allDistinct l = true ↔ l.Pairwise (· ≠ ·) :=
  noLater_pairwise allDistinct rfl (fun _ _ => rfl) l

theorem allDistinctI_iff (l : List Int) : allDistinctI l = true ↔ l.Pairwise (· ≠ ·) :=
  noLater_pairwise allDistinctI rfl (fun _ _ => rfl) l

/-- the scan is the `find?` over `List.range'` of the same predicate — the formulation the spec uses, and the one the
library knows: what a scan finds and when it finds nothing are `List.find?_range'_eq_some` / `_eq_none` -/
theorem scan_eq_find (f : Nat → Int) (p : Int → Bool) (k lo : Nat) :
    scan f p k lo = (match (List.range' lo k).find? (fun j => p (f j)) with | some j => f j | none => -1) := by
  induction k generalizing lo with
  | zero => rfl
  | succ k ih =>
    rw [scan, List.range'_succ, List.find?_cons, ih]
    cases p (f lo) <;> rfl

theorem scan_found (f : Nat → Int) (p : Int → Bool) (k lo : Nat) (r : Int)
    (h : scan f p k lo = r) (hr : r ≠ -1) :
    ∃ i, lo ≤ i ∧ i < lo + k ∧ r = f i ∧ p r = true ∧ ∀ j, lo ≤ j → j < i → p (f j) = false := by
  rw [scan_eq_find] at h
  cases hf : (List.range' lo k).find? (fun j => p (f j)) with
  | none => rw [hf] at h; exact absurd h.symm hr
  | some i =>
    rw [hf] at h
    obtain ⟨hp, hi, hlt⟩ := List.find?_range'_eq_some.1 hf
    have hi := List.mem_range'_1.1 hi
    exact ⟨i, hi.1, hi.2, h.symm, h ▸ hp, fun j h1 h2 => by simpa using hlt j h1 h2⟩

theorem scan_ne_of_hit (f : Nat → Int) (p : Int → Bool) (k lo : Nat)
    (hf : ∀ i, lo ≤ i → i < lo + k → f i ≠ -1) (j : Nat) (h1 : lo ≤ j) (h2 : j < lo + k) (hp : p (f j) = true) :
    scan f p k lo ≠ -1 := by
  rw [scan_eq_find]
  cases hfd : (List.range' lo k).find? (fun j => p (f j)) with
  | none => have := List.find?_range'_eq_none.1 hfd j h1 h2; simp [hp] at this
  | some i =>
    have hi := List.mem_range'_1.1 (List.find?_range'_eq_some.1 hfd).2.1
    exact hf i hi.1 hi.2

theorem scan_none (f : Nat → Int) (p : Int → Bool) (k lo : Nat)
    (h : ∀ j, lo ≤ j → j < lo + k → p (f j) = false) : scan f p k lo = -1 := by
  rw [scan_eq_find, List.find?_range'_eq_none.2 fun j h1 h2 => by rw [h j h1 h2]; rfl]

theorem scan_congr (f g : Nat → Int) (p : Int → Bool) (k lo : Nat) (h : ∀ j, lo ≤ j → j < lo + k → f j = g j) :
    scan f p k lo = scan g p k lo := by
  induction k generalizing lo with
  | zero => rfl
  | succ k ih =>
    rw [scan, scan, h lo (Nat.le_refl _) (Nat.lt_add_of_pos_right k.succ_pos),
      ih (lo+1) fun j h1 h2 => h j (Nat.le_of_succ_le h1) (Nat.succ_add_eq_add_succ lo k ▸ h2)]

theorem firstSeat_found (p : Int → Bool) (n : Nat) (h : firstSeat p n ≠ -1) :
    0 ≤ firstSeat p n ∧ firstSeat p n < n ∧ p (firstSeat p n) = true := by
  obtain ⟨i, _, hi, hr, hp, _⟩ := scan_found (fun i => (i : Int)) p n 0 (firstSeat p n) rfl h
  rw [show firstSeat p n = (i : Int) from hr] at hp ⊢
  exact ⟨Int.natCast_nonneg i, Int.ofNat_lt.2 (Nat.zero_add n ▸ hi), hp⟩

theorem firstSeat_ne (p : Int → Bool) (n : Nat) (i : Int) (h0 : 0 ≤ i) (hn : i < n) (hp : p i = true) :
    firstSeat p n ≠ -1 := by
  refine scan_ne_of_hit _ _ _ _ (fun k _ _ => by simp) i.toNat (Nat.zero_le _)
    (by rw [Nat.zero_add]; exact (Int.toNat_lt h0).2 hn) ?_
  show p ((i.toNat : Nat) : Int) = true
  rw [Int.toNat_of_nonneg h0]; exact hp

theorem countUpTo_eq_countP (p : Nat → Bool) (n : Nat) : countUpTo p n = (List.range n).countP p := by
  induction n with
  | zero => rfl
  | succ n ih => rw [countUpTo, List.range_succ, List.countP_append, ih, List.countP_singleton]

theorem countSeats_eq (n : Nat) (p : Int → Bool) :
    SMSpec.countSeats n p = countUpTo (fun i => p (Int.ofNat i)) n := by
  rw [countUpTo_eq_countP, SMSpec.countSeats, SMSpec.seatsList, ← List.countP_eq_length_filter, List.countP_map]
  rfl

theorem dealtIn_eq (st : State) : SMSpec.dealtIn st = activeCount st.maxSeat st.seats := by
  unfold SMSpec.dealtIn activeCount; exact countSeats_eq _ _

theorem aliveN_eq (st : State) : SMSpec.aliveN st = aliveCount st.maxSeat st.seats := by
  unfold SMSpec.aliveN aliveCount; exact countSeats_eq _ _

theorem count_pos (p : Nat → Bool) (n k : Nat) (hk : k < n) (hp : p k = true) : 1 ≤ countUpTo p n := by
  rw [countUpTo_eq_countP]
  exact List.countP_pos_iff.2 ⟨k, List.mem_range.2 hk, hp⟩

theorem count_ge_one (p : Nat → Bool) (n : Nat) (h : 1 ≤ countUpTo p n) : ∃ i, i < n ∧ p i = true := by
  rw [countUpTo_eq_countP] at h
  obtain ⟨i, hi, hp⟩ := List.countP_pos_iff.1 h
  exact ⟨i, List.mem_range.1 hi, hp⟩

theorem count_ge_two (p : Nat → Bool) (n : Nat) (h : 2 ≤ countUpTo p n) :
    ∃ i j, i < j ∧ j < n ∧ p i = true ∧ p j = true := by
  induction n with
  | zero => exact absurd h (Nat.not_succ_le_zero _)
  | succ n ih =>
    by_cases hp : p n = true
    · rw [countUpTo, if_pos hp] at h
      obtain ⟨i, hi, hpi⟩ := count_ge_one p n (Nat.le_of_succ_le_succ h)
      exact ⟨i, n, hi, n.lt_succ_self, hpi, hp⟩
    · rw [countUpTo, if_neg hp] at h
      obtain ⟨i, j, h1, h2, h3, h4⟩ := ih h
      exact ⟨i, j, h1, Nat.lt_succ_of_lt h2, h3, h4⟩

theorem count_ge_two_ne {p : Nat → Bool} {n : Nat} (h : 2 ≤ countUpTo p n) (x : Int) :
    ∃ j : Nat, j < n ∧ p j = true ∧ (Int.ofNat j) ≠ x := by
  obtain ⟨i, j, hij, hjn, hpi, hpj⟩ := count_ge_two p n h
  by_cases hi : (Int.ofNat i) = x
  · exact ⟨j, hjn, hpj, fun hj => Nat.ne_of_lt hij (Int.ofNat.inj (hi.trans hj.symm))⟩
  · exact ⟨i, Nat.lt_trans hij hjn, hpi, hi⟩

theorem count_mono (p q : Nat → Bool) (n : Nat) (h : ∀ i, i < n → p i = true → q i = true) :
    countUpTo p n ≤ countUpTo q n := by
  rw [countUpTo_eq_countP, countUpTo_eq_countP]
  exact List.countP_mono_left fun i hi => h i (List.mem_range.1 hi)

theorem tmod_small {x n : Int} (h0 : 0 ≤ x) (h1 : x < n) : Int.tmod x n = x := Int.tmod_eq_of_lt h0 h1

theorem tmod_wrap {x n : Int} (h0 : n ≤ x) (h1 : x < 2 * n) (hn : 0 < n) : Int.tmod x n = x - n := by
  rw [Int.tmod_eq_emod_of_nonneg (Int.le_trans (Int.le_of_lt hn) h0), ← Int.sub_emod_right x n]
  exact Int.emod_eq_of_lt (Int.sub_nonneg_of_le h0) (Int.sub_left_lt_of_lt_add (Int.two_mul n ▸ h1))

/-- a number strictly between `b` and `b + n` is not `b` modulo `n`: the difference is a nonzero residue -/
theorem tmod_ne {x b n : Int} (hb0 : 0 ≤ b) (hbn : b < n) (h1 : b < x) (h2 : x < b + n) : Int.tmod x n ≠ b := by
  rw [Int.tmod_eq_emod_of_nonneg (Int.le_trans hb0 (Int.le_of_lt h1))]
  intro h
  have := Int.emod_eq_emod_iff_emod_sub_eq_zero.1 (h.trans (Int.emod_eq_of_lt hb0 hbn).symm)
  rw [Int.emod_eq_of_lt (Int.sub_nonneg_of_le (Int.le_of_lt h1)) (Int.sub_left_lt_of_lt_add h2)] at this
  exact Int.ne_of_gt h1 (Int.eq_of_sub_eq_zero this)

/-- … and every other residue `j` is reached from `b`, `(j - b) % n` steps on -/
theorem tmod_cover {b j n : Int} (hb0 : 0 ≤ b) (hbn : b < n) (hj0 : 0 ≤ j) (hjn : j < n) (hne : j ≠ b) :
    0 < (j - b) % n ∧ (j - b) % n < n ∧ Int.tmod (b + (j - b) % n) n = j := by
  have hn : 0 < n := Int.lt_of_le_of_lt hb0 hbn
  have h0 := Int.emod_nonneg (j - b) (Int.ne_of_gt hn)
  refine ⟨Int.lt_iff_le_and_ne.2 ⟨h0, fun h => hne ?_⟩, Int.emod_lt_of_pos _ hn, ?_⟩
  · have := Int.emod_eq_emod_iff_emod_sub_eq_zero.2 h.symm
    rwa [Int.emod_eq_of_lt hj0 hjn, Int.emod_eq_of_lt hb0 hbn] at this
  · rw [Int.tmod_eq_emod_of_nonneg (Int.add_nonneg hb0 h0), Int.add_emod_emod, Int.add_comm, Int.sub_add_cancel,
      Int.emod_eq_of_lt hj0 hjn]

theorem offset_lt {i n : Nat} (h1 : 1 ≤ i) : i < 1 + (n - 1) ↔ i < n := by
  cases n with
  | zero => exact ⟨fun h => absurd h (Nat.not_lt.2 h1), nofun⟩
  | succ n => rw [Nat.add_sub_cancel, Nat.add_comm]

/-- every seat other than `start` is visited by the forward scan -/
theorem fwd_cover (n : Nat) (start j : Int) (hs0 : 0 ≤ start) (hsn : start < n) (hj0 : 0 ≤ j) (hjn : j < n)
    (hne : j ≠ start) : ∃ i : Nat, 1 ≤ i ∧ i < 1 + (n - 1) ∧ Int.tmod (start + (i : Int)) n = j := by
  obtain ⟨h1, h2, h3⟩ := tmod_cover hs0 hsn hj0 hjn hne
  have h1' : 1 ≤ ((j - start) % n).toNat := Int.lt_toNat.2 h1
  exact ⟨_, h1', (offset_lt h1').2 ((Int.toNat_lt (Int.le_of_lt h1)).2 h2), by rwa [Int.toNat_of_nonneg (Int.le_of_lt h1)]⟩

/-- `f` runs, for the offsets `1 ≤ i < n`, through exactly the seats of an `n`-seat table other than `start`.  What the four
circular scans have in common: which seat they find depends on the order, that they find one (and that it is a seat
other than `start`) only on this. -/
def Visits (n : Nat) (start : Int) (f : Nat → Int) : Prop :=
  (∀ i, 1 ≤ i → i < n → 0 ≤ f i ∧ f i < n ∧ f i ≠ start) ∧
  ∀ j : Int, 0 ≤ j → j < n → j ≠ start → ∃ i, 1 ≤ i ∧ i < n ∧ f i = j

theorem visits_fwd (n : Nat) (start : Int) (h0 : 0 ≤ start) (hn : start < n) :
    Visits n start (fun i => Int.tmod (start + (i : Int)) n) := by
  refine ⟨fun i h1 h2 => ⟨Int.tmod_nonneg _ (Int.add_nonneg h0 (Int.natCast_nonneg i)),
    Int.tmod_lt_of_pos _ (Int.lt_of_le_of_lt h0 hn),
    tmod_ne h0 hn (Int.lt_add_of_pos_right _ (Int.natCast_pos.2 h1)) (Int.add_lt_add_left (Int.ofNat_lt.2 h2) _)⟩,
    fun j hj0 hjn hne => ?_⟩
  obtain ⟨i, h1, h2, h3⟩ := fwd_cover n start j h0 hn hj0 hjn hne
  exact ⟨i, h1, (offset_lt h1).1 h2, h3⟩

/-- backwards by `i` is forwards by `n - i` -/
theorem visits_bwd (n : Nat) (start : Int) (h0 : 0 ≤ start) (hn : start < n) :
    Visits n start (fun i => Int.tmod (start + (n : Int) - (i : Int)) n) := by
  have hf := visits_fwd n start h0 hn
  have key : ∀ i : Nat, i ≤ n → Int.tmod (start + (n : Int) - (i : Int)) n = Int.tmod (start + ((n - i : Nat) : Int)) n :=
    fun i hi => by rw [Int.add_sub_assoc, Int.ofNat_sub hi]
  refine ⟨fun i h1 h2 => ?_, fun j hj0 hjn hne => ?_⟩
  · simp only [key i (Nat.le_of_lt h2)]
    exact hf.1 (n - i) (Nat.sub_pos_of_lt h2) (Nat.sub_lt (Nat.zero_lt_of_lt h2) h1)
  · obtain ⟨i, h1, h2, h3⟩ := hf.2 j hj0 hjn hne
    refine ⟨n - i, Nat.sub_pos_of_lt h2, Nat.sub_lt (Nat.zero_lt_of_lt h2) h1, ?_⟩
    show Int.tmod (start + (n : Int) - ((n - i : Nat) : Int)) n = j
    rwa [key _ (Nat.sub_le n i), Nat.sub_sub_self (Nat.le_of_lt h2)]

/-- a circular scan that finds a seat finds one of the table, other than `start`, with the property looked for -/
theorem scan_visits_props {n : Nat} {start : Int} {f : Nat → Int} (hv : Visits n start f) (p : Int → Bool)
    (hne : scan f p (n - 1) 1 ≠ -1) :
    0 ≤ scan f p (n - 1) 1 ∧ scan f p (n - 1) 1 < n ∧ p (scan f p (n - 1) 1) = true ∧ scan f p (n - 1) 1 ≠ start := by
  obtain ⟨k, hk1, hk2, hk3, hk4, _⟩ := scan_found _ _ _ _ _ rfl hne
  have := hv.1 k hk1 ((offset_lt hk1).1 hk2)
  rw [← hk3] at this
  exact ⟨this.1, this.2.1, hk4, this.2.2⟩

theorem scan_visits_exists {n : Nat} {start : Int} {f : Nat → Int} (hv : Visits n start f) (p : Int → Bool)
    (j : Int) (hj0 : 0 ≤ j) (hjn : j < n) (hne : j ≠ start) (hp : p j = true) : scan f p (n - 1) 1 ≠ -1 := by
  obtain ⟨k, hk1, hk2, hk3⟩ := hv.2 j hj0 hjn hne
  refine scan_ne_of_hit _ _ _ _ (fun x h1 h2 => ?_) k hk1 ((offset_lt hk1).2 hk2) (hk3 ▸ hp)
  exact Int.ne_of_gt (Int.lt_of_lt_of_le (by decide) (hv.1 x h1 ((offset_lt h1).1 h2)).1)

theorem scan_visits_two {n : Nat} {start : Int} {f : Nat → Int} (hv : Visits n start f) (p : Int → Bool)
    (h : 2 ≤ countUpTo (fun i => p (Int.ofNat i)) n) : scan f p (n - 1) 1 ≠ -1 := by
  obtain ⟨j, hjn, hpj, hjne⟩ := count_ge_two_ne h start
  exact scan_visits_exists hv p (Int.ofNat j) (Int.natCast_nonneg j) (Int.ofNat_lt.2 hjn) hjne hpj

theorem SeatPlayer.alive_of_active {p : SeatPlayer} (h : p.active = true) : p.alive = true := by
  rw [SeatPlayer.active, Bool.and_eq_true, Bool.and_eq_true] at h
  exact Bool.and_eq_true_iff.2 ⟨h.1.1, h.2⟩

theorem active_imp_alive (s : Seats) (i : Int) (h : activeAt s i = true) : aliveAt s i = true := by
  rw [activeAt_eq, Option.any_eq_true] at h
  rw [aliveAt_eq, Option.any_eq_true]
  obtain ⟨p, hp, ha⟩ := h
  exact ⟨p, hp, SeatPlayer.alive_of_active ha⟩

theorem reflag_alive (n : Nat) (d b : Int) (s : Seats) (i : Int) :
    aliveAt (reflag n d b s) i = aliveAt s i := by
  rw [aliveAt_eq, aliveAt_eq, reflag_apply, Option.any_map]
  congr 1; funext p
  show (if p.active then p else _).alive = p.alive
  split <;> rfl

theorem reflag_keeps_active (n : Nat) (d b : Int) (s : Seats) (i : Int) (h : activeAt s i = true) :
    activeAt (reflag n d b s) i = true := by
  rw [activeAt_eq, Option.any_eq_true] at h ⊢
  obtain ⟨p, hp, ha⟩ := h
  exact ⟨p, by rw [reflag_apply, hp, Option.map_some, if_pos ha], ha⟩

theorem reflag_at (n : Nat) (d b : Int) (s : Seats) (i : Int)
    (ha : aliveAt s i = true) (hb : isBetween n d b i = false) :
    activeAt (reflag n d b s) i = true := by
  rw [aliveAt_eq, Option.any_eq_true] at ha
  rw [activeAt_eq, Option.any_eq_true]
  obtain ⟨p, hp, hal⟩ := ha
  refine ⟨_, by rw [reflag_apply, hp, Option.map_some], ?_⟩
  by_cases hact : p.active = true
  · rw [if_pos hact]; exact hact
  · rw [if_neg hact, SeatPlayer.active, hb]
    simpa [SeatPlayer.alive] using hal

theorem reflag_map {α : Type} (g : SeatPlayer → α) (hg : ∀ p b, g { p with between := b } = g p)
    (n : Nat) (d b : Int) (s : Seats) (i : Int) : ((reflag n d b s) i).map g = (s i).map g := by
  rw [reflag_apply, Option.map_map]
  congr 1; funext p
  show g (if p.active then p else _) = g p
  split
  · rfl
  · exact hg p _

theorem updAt_map {α : Type} (g : SeatPlayer → α) (f : SeatPlayer → SeatPlayer) (hf : ∀ p, g (f p) = g p)
    (s : Seats) (k i : Int) : ((updAt s k f) i).map g = (s i).map g := by
  rw [updAt_apply]
  split
  · rw [Option.map_map]; congr 1; funext p; exact hf p
  · rfl

theorem wrapHit_false (n b : Int) (hn : 0 < n) (hb0 : 0 ≤ b) (hbn : b < n) (k : Nat) (lo : Int)
    (hlo : b < lo) (hhi : lo + k ≤ b + n) : wrapHit n b k lo = false := by
  induction k generalizing lo with
  | zero => rfl
  | succ k ih =>
    rw [Int.natCast_succ, Int.add_comm _ 1, ← Int.add_assoc] at hhi
    rw [wrapHit, if_neg (mt beq_iff_eq.1 (tmod_ne hb0 hbn hlo (Int.lt_of_lt_of_le (Int.lt_succ lo)
      (Int.le_trans (Int.le_add_of_nonneg_right (Int.natCast_nonneg k)) hhi))))]
    exact ih (lo + 1) (Int.lt_trans hlo (Int.lt_succ lo)) hhi

theorem isBetween_self (n : Nat) (d b : Int) (hb0 : 0 ≤ b) (hbn : b < n) : isBetween n d b b = false := by
  have hlt : (decide (b < b) && decide (b > d)) = false := by rw [decide_eq_false (Int.lt_irrefl b)]; rfl
  rw [isBetween, hlt, Bool.or_false, ite_eq_right_iff]
  intro hneg
  -- the wrapped walk from `d + 1` stops before it is back at `b`
  by_cases hk : b + n - (d + 1) ≤ 0
  · rw [Int.toNat_eq_zero.2 hk]; rfl
  · refine wrapHit_false n b (Int.lt_of_le_of_lt hb0 hbn) hb0 hbn _ _
      (Int.lt_trans (Int.lt_of_sub_neg hneg) (Int.lt_succ d)) ?_
    rw [Int.toNat_of_nonneg (Int.le_of_lt (Int.not_le.1 hk)), Int.add_comm, Int.sub_add_cancel]
    exact Int.le_refl _

theorem activeCount_le_aliveCount (n : Nat) (s : Seats) : activeCount n s ≤ aliveCount n s :=
  count_mono _ _ n (fun _ _ h => active_imp_alive s _ h)

theorem aliveCount_reflag (n m : Nat) (d b : Int) (s : Seats) : aliveCount n (reflag m d b s) = aliveCount n s :=
  Nat.le_antisymm (count_mono _ _ n (fun _ _ h => (reflag_alive m d b s _).symm.trans h))
    (count_mono _ _ n (fun _ _ h => (reflag_alive m d b s _).trans h))

theorem reflag_count_ge (n m : Nat) (d b : Int) (s : Seats) : activeCount n s ≤ activeCount n (reflag m d b s) :=
  count_mono _ _ n (fun _ _ h => reflag_keeps_active m d b s _ h)

end SM
