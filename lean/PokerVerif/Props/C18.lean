import PokerVerif.Lemmas.ACBot
import PokerVerif.Examples.HD
/-!
# C18 — Bots only ever make legal moves, and bot tables play out

Statement: for any hand state in which a bot is asked to act, it submits exactly one action, for itself, that the hand
engine accepts — an allowed action with a legal amount (ready, mandatory payment of the right size, or a wager within
its stack and the raise rules); it stays silent when not asked or when its view is stale.  Hands played entirely by
bots therefore always reach settlement.

`AC.botMoves` is the set of moves the bot's dice can produce (`requestMove` / `requestAI`).  Legality is stated against
`PF.accepts` / `PF.available`, the transcription of pokerface's acceptance side, under the well-formedness contract
`PF.wf` (the acting player's allowed list is `GetAvailableActions`, stacks and wagers are consistent) — monitored on
every real state.  Real bots play real tables in every run: every move must lie in the modelled set, be accepted by the
real engine, and every all-bot hand must settle.
-/
namespace AC
open HD

/-- `botRunner.requestAI` as the source has it now (regenerated from actor/bot_runner.go): the guards of the `bet` and
`raise` branches (`InitialStackSize <= minBet`: shove; `maxChipLevel <= minChipLevel`: shove) and the sampled intervals
`[minBet, stack)` / `[wager + previous raise, stack)` are the ones `aiMoves` transcribes; any other shape fails here -/
def expectedBotRequestAI : List String := ["player := gs.Players[playerIdx]", "if len(player.AllowedActions) == 0 { return nil }", "action := player.AllowedActions[0]", "if len(player.AllowedActions) > 1 { action = br.calcAction(player.AllowedActions) }", "chips := int64(0)", "switch action { case \"bet\": minBet := gs.Status.MiniBet if player.InitialStackSize <= minBet { return br.actions.Bet(player.InitialStackSize) } chips = rand.Int63n(player.InitialStackSize-minBet) + minBet err := br.actions.Bet(chips) if err != nil { return err } br.updateWagerAction(pokertable.WagerAction_Bet, chips) return nil case \"raise\": maxChipLevel := player.InitialStackSize minChipLevel := gs.Status.CurrentWager + gs.Status.PreviousRaiseSize if maxChipLevel <= minChipLevel { err := br.actions.Raise(maxChipLevel) if err != nil { return err } br.updateWagerAction(pokertable.WagerAction_Raise, maxChipLevel) return nil } chips = rand.Int63n(maxChipLevel-minChipLevel) + minChipLevel err := br.actions.Raise(chips) if err != nil { return err } br.updateWagerAction(pokertable.WagerAction_Raise, chips) return nil case \"call\": wager := int64(0) gamePlayerIdx := br.tableInfo.FindGamePlayerIdx(br.playerID) if gamePlayerIdx >= 0 && br.tableInfo != nil && br.tableInfo.State.GameState != nil && gamePlayerIdx < len(br.tableInfo.State.GameState.Players) { wager = br.tableInfo.State.GameState.Status.CurrentWager - br.tableInfo.State.GameState.GetPlayer(gamePlayerIdx).Wager } err := br.actions.Call() if err != nil { return err } br.updateWagerAction(pokertable.WagerAction_Call, wager) return nil case \"check\": err := br.actions.Check() if err != nil { return err } br.updateWagerAction(pokertable.WagerAction_Check, 0) return nil case \"allin\": wager := int64(0) gamePlayerIdx := br.tableInfo.FindGamePlayerIdx(br.playerID) if gamePlayerIdx >= 0 && br.tableInfo != nil && br.tableInfo.State.GameState != nil && gamePlayerIdx < len(br.tableInfo.State.GameState.Players) { wager = br.tableInfo.State.GameState.GetPlayer(gamePlayerIdx).StackSize } err := br.actions.Allin() if err != nil { return err } br.updateWagerAction(pokertable.WagerAction_AllIn, wager) return nil }", "err := br.actions.Fold()", "if err != nil { return err }", "br.updateWagerAction(pokertable.WagerAction_Fold, 0)", "return nil"]

/-- deliveries to one actor are queued behind its mutex — one at a time, none dropped (regenerated from actor/actor.go);
the runners' staleness filters and "acts when asked" rely on it -/
theorem C18_delivery_fact : Facts.actorUpdate =
    ["a.mu.Lock()", "defer a.mu.Unlock()", "err := a.runner.UpdateTableState(tableInfo)", "if err != nil { return err }", "return nil"] := rfl

/-- `botRunner.UpdateTableState` as the source has it now: eliminated / not seated-in bots do not play, a state of the
same hand that is not newer than the last one seen is ignored *and every newer state is remembered*, nothing happens
unless the table is playing and the bot is dealt in — what `botReacts` transcribes -/
def expectedBotUpdate : List String := ["gs := table.State.GameState", "br.tableInfo = table", "isEliminated := true", "shouldAutoJoin := false", "for _, ps := range table.State.PlayerStates { if ps.PlayerID == br.playerID { isEliminated = false if !ps.IsIn { shouldAutoJoin = true } break } }", "if isEliminated { return nil }", "if shouldAutoJoin { return br.timebank.NewTask(time.Duration(100)*time.Millisecond, func(isCancelled bool) { if isCancelled { return } br.onTableAutoJoinActionRequested(table.Meta.CompetitionID, table.ID, br.playerID) }) }", "if gs != nil { if gs.GameID != br.curGameID { br.curGameID = gs.GameID } else if br.lastGameStateTime >= gs.UpdatedAt { return nil } br.lastGameStateTime = gs.UpdatedAt }", "if table.State.Status != pokertable.TableStateStatus_TableGamePlaying || gs == nil { return nil }", "gamePlayerIdx := table.GamePlayerIndex(br.playerID)", "if gamePlayerIdx == -1 { return nil }", "player := gs.GetPlayer(gamePlayerIdx)", "if player == nil { return nil }", "if len(player.AllowedActions) > 0 { err := br.requestMove(table.State.GameState, gamePlayerIdx) if err != nil { return err } }", "return nil"]

theorem C18_update_facts : Facts.botUpdate = expectedBotUpdate := by rfl

theorem C18_ai_facts : Facts.botRequestAI = expectedBotRequestAI := by rfl

/-- what the theorems need of the player's entry in a well-formed state -/
structure Sane (v : View) (p : PView) : Prop where
  avail : p.allowed = PF.available v p
  stack : p.stack = p.init - p.wager
  wager0 : 0 ≤ p.wager
  wagerLe : p.wager ≤ p.init
  prev0 : 0 ≤ v.prev
  vwager0 : 0 ≤ v.wager

/-- **C18 — a raise the bot can choose is legal**: `raise` is allowed, the interval is not empty, and every level in it
is accepted by the hand engine, lies within the stack, and is the whole stack (all-in) or at least the minimum raise. -/
theorem C18_raise_legal (v : View) (p : PView) (hs : Sane v p) (lo hi : Int) (h : Move.raise lo hi ∈ aiMoves v p) :
    p.allowed.contains "raise" = true ∧ lo ≤ hi ∧
    ∀ a, lo ≤ a → a ≤ hi → PF.accepts v p "raise" a = true ∧ a ≤ p.init ∧ (a = p.init ∨ v.wager + v.prev ≤ a) := by
  obtain ⟨hmem, hsp⟩ := aiMoves_raise v p lo hi h
  have hc : p.allowed.contains "raise" = true := List.contains_iff_mem.mpr hmem
  obtain ⟨hle, hall⟩ := span_spec hsp
  refine ⟨hc, hle, fun a h1 h2 => ⟨?_, hall a h1 h2⟩⟩
  -- `raise` is on offer only above a positive wager that the stack covers, so no level of the interval is 0 or below
  -- the wager
  have hw : 0 < v.wager ∧ v.wager ≤ p.init := by
    rcases (raise_available v p (hs.avail ▸ hmem)).2 with hb | hb
    · exact ⟨Int.lt_of_le_of_lt hs.wager0 hb.1, Int.le_of_lt hb.2.1⟩
    · exact ⟨Int.lt_iff_le_and_ne.2 ⟨hs.vwager0, Ne.symm hb.2.2⟩, Int.le_trans (Int.not_lt.1 hb.1) hs.wagerLe⟩
  have ha : v.wager ≤ a := by
    rcases (hall a h1 h2).2 with rfl | ha
    · exact hw.2
    · exact Int.le_trans (Int.le_add_of_nonneg_right hs.prev0) ha
  exact accepts_allowed hc fun _ => ⟨Int.ne_of_gt (Int.lt_of_lt_of_le hw.1 ha), ha⟩

/-- **C18 — a bet the bot can choose is legal**: `bet` is allowed, and every amount is accepted, within the stack and
at least the minimum bet (or the whole stack when that is smaller). -/
theorem C18_bet_legal (v : View) (p : PView) (hs : Sane v p) (lo hi : Int) (h : Move.bet lo hi ∈ aiMoves v p) :
    p.allowed.contains "bet" = true ∧ lo ≤ hi ∧
    ∀ a, lo ≤ a → a ≤ hi → PF.accepts v p "bet" a = true ∧ a ≤ p.init ∧ (a = p.init ∨ v.mini ≤ a) := by
  obtain ⟨hmem, hsp⟩ := aiMoves_bet v p lo hi h
  have hc : p.allowed.contains "bet" = true := List.contains_iff_mem.mpr hmem
  obtain ⟨hle, hall⟩ := span_spec hsp
  refine ⟨hc, hle, fun a h1 h2 => ⟨?_, hall a h1 h2⟩⟩
  exact accepts_allowed hc (by simp)

/-- **C18 — every move of the bot is an allowed action** (when the hand asks for a wager action), accepted by the hand
engine (raise levels: `C18_raise_legal`) … -/
theorem C18_kind_allowed (v : View) (p : PView) (hk : ∀ a ∈ p.allowed, a ∈ wagerKinds) (m : Move) (h : m ∈ aiMoves v p) :
    m.kind ∈ p.allowed ∧ (m.kind ≠ "raise" → PF.accepts v p m.kind 0 = true) := by
  have hm := aiMoves_kind v p hk m h
  exact ⟨hm, fun h1 => accepts_allowed (List.contains_iff_mem.mpr hm) fun h => absurd h h1⟩

/-- … **ready / pass / the mandatory payment of the posted size** otherwise, one move each -/
theorem C18_requests (v : View) (gi : Nat) (p : PView) (hp : v.players[gi]? = some p) :
    (p.allowed.contains "ready" = true → botMoves v gi = [.ready]) ∧
    (p.allowed.contains "ready" = false → p.allowed.contains "pass" = true → botMoves v gi = [.pass]) ∧
    (p.allowed.contains "ready" = false → p.allowed.contains "pass" = false → p.allowed.contains "pay" = true →
      ∀ c, posted v gi = some c → botMoves v gi = [.pay c]) := by
  have hne {a} (h : p.allowed.contains a = true) : ¬p.allowed.isEmpty = true := fun he => by
    rw [List.isEmpty_iff.1 he] at h; cases h
  unfold botMoves
  rw [hp]; dsimp only
  refine ⟨fun h => ?_, fun h1 h2 => ?_, fun h1 h2 h3 c hc => ?_⟩
  · rw [if_neg (hne h), if_pos h]
  · rw [if_neg (hne h2), if_neg (ne_true_of_eq_false h1), if_pos h2]
  · rw [if_neg (hne h3), if_neg (ne_true_of_eq_false h1), if_neg (ne_true_of_eq_false h2), h3, hc]; rfl

/-- whoever is allowed something has a move: when nothing is posted for an allowed `pay`, `requestMove` falls through to
`requestAI`, which makes a move of every allowed action -/
theorem botMoves_ne_nil {v : View} {gi : Nat} {p : PView} (hp : v.players[gi]? = some p) (hne : p.allowed ≠ []) :
    botMoves v gi ≠ [] := by
  fun_cases botMoves v gi
  case case1 h => rw [hp] at h; cases h
  case case2 h he => rw [hp] at h; cases h; exact absurd (List.isEmpty_iff.1 he) hne
  case case6 h _ _ _ _ => rw [hp] at h; cases h; exact mt List.map_eq_nil_iff.1 hne
  all_goals exact List.cons_ne_nil _ _

/-- **C18 — exactly one action when asked**: whenever the hand allows the bot something, the set of moves it may
make is not empty (and `requestMove` makes exactly one call: a single `return` per branch, compared on every real move). -/
theorem C18_acts_when_asked (v : View) (gi : Nat) (p : PView) (hp : v.players[gi]? = some p) (hne : p.allowed ≠ [])
    (hpost : p.allowed.contains "pay" = true → (posted v gi).isSome = true) : botMoves v gi ≠ [] :=
  botMoves_ne_nil hp hne

/-- when the bot reacts: at the table, seated-in, on a playing table, dealt in, to a hand state that is new to it and
allows it something -/
theorem botReacts_true {m : BotMem} {atTable isIn playing : Bool} {v : Option View} {gi : Option Nat}
    (h : (botReacts m atTable isIn playing v gi).1 = true) :
    atTable = true ∧ isIn = true ∧ playing = true ∧
    ∃ vv g, v = some vv ∧ gi = some g ∧ ¬(vv.gid = m.curGame ∧ vv.stamp ≤ m.lastTime) ∧ botMoves vv g ≠ [] := by
  revert h
  fun_cases botReacts m atTable isIn playing v gi
  case case7 h1 h2 vv h3 _ h4 g =>
    intro h
    simp only [Bool.not_eq_true', Bool.not_eq_false, Bool.and_eq_true, beq_iff_eq, decide_eq_true_eq, ge_iff_le,
      List.isEmpty_eq_false_iff] at h1 h2 h3 h4 h
    exact ⟨h1, h2, h4, vv, g, rfl, rfl, h3, h⟩
  all_goals exact nofun

/-- **C18 — silent when not asked or when the view is stale**: not at the table, not seated-in, no hand state, a state
already seen (same hand, time stamp not newer), table not playing, not dealt in, nothing allowed. -/
theorem C18_silent (m : BotMem) (atTable isIn playing : Bool) (v : Option View) (gi : Option Nat) :
    (atTable = false → (botReacts m atTable isIn playing v gi).1 = false) ∧
    (v = none → (botReacts m atTable isIn playing v gi).1 = false) ∧
    (∀ vv, v = some vv → vv.gid = m.curGame → vv.stamp ≤ m.lastTime → (botReacts m atTable isIn playing v gi).1 = false) ∧
    (playing = false → (botReacts m atTable isIn playing v gi).1 = false) ∧
    (gi = none → (botReacts m atTable isIn playing v gi).1 = false) := by
  refine ⟨fun h => ?_, fun h => ?_, fun vv hv hg hs => ?_, fun h => ?_, fun h => ?_⟩
  all_goals
    -- the contrapositive of a conjunct of `botReacts_true`
    refine Bool.eq_false_iff.2 fun hr => ?_
    obtain ⟨h1, _, h3, vv', g, hv', hg', hst, _⟩ := botReacts_true hr
  · rw [h] at h1; cases h1
  · rw [h] at hv'; cases hv'
  · rw [hv] at hv'; cases hv'; exact hst ⟨hg, hs⟩
  · rw [h] at h3; cases h3
  · rw [h] at hg'; cases hg'

-- non-vacuity: the example state of C10 is sane for its current player; the bot may raise to any level in 40..499
example : Sane exView exView.players[0]! ∧ botMoves exView 0 = [.allin, .fold, .call, .raise 40 499] ∧
    PF.accepts exView exView.players[0]! "raise" 40 = true := by
  refine ⟨⟨by decide +kernel, by decide +kernel, by decide +kernel, by decide +kernel, by decide +kernel, by decide +kernel⟩, by decide +kernel, by decide +kernel⟩

/-- `botRunner.requestMove` as the source has it now (regenerated from actor/bot_runner.go): a humanised bot parks its move
on the time bank and, when the thinking is over, decides on the hand state it was asked on (`gs`, the argument) — not on
whatever view reached it since -/
theorem C18_request_move_fact : Facts.botRequestMove.drop 1 =
    ["if !br.isHumanized || br.tableInfo.Meta.ActionTime == 0 { return br.requestAI(gs, playerIdx) }",
     "thinkingTime := rand.Intn(br.tableInfo.Meta.ActionTime)",
     "if thinkingTime == 0 { return br.requestAI(gs, playerIdx) }",
     "return br.timebank.NewTask(time.Duration(thinkingTime)*time.Second, func(isCancelled bool) { if isCancelled { return } br.requestAI(gs, playerIdx) })"] := by rfl

end AC
