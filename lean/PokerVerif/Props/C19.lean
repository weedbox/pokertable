import PokerVerif.AC
import PokerVerif.Lemmas.HDBasic
import PokerVerif.Examples.HD
/-!
# C19 — Auto-play for an unresponsive player never volunteers chips

Statement: when a human player's thinking time runs out, or the player is suspended, the player runner acts for them
in the most conservative way: pass when that is the only option, otherwise ready or check if allowed, otherwise fold,
and it pays only mandatory antes and blinds of the posted size; it never calls, bets, raises or moves all-in, and it
does nothing before the thinking time has elapsed.

`AC.automate` / `AC.requestMove` transcribe `playerRunner.automate` / `requestMove`; the order of the `if` chain and
the statements of `requestMove` are regenerated facts.  The real runner is run on thousands of real hand states per
run (all three statuses, action time 0 and 1 s) and must make exactly the modelled call, timed cases not before the
thinking time.
-/
namespace AC
open HD

/-- the `if` chain of `automate` and the head of `requestMove`, as the source has them now -/
theorem C19_order_facts :
    Facts.automateConds = ["gs.HasAction(playerIdx, \"ready\")", "gs.HasAction(playerIdx, \"check\")", "gs.HasAction(playerIdx, \"fold\")"] ∧
    Facts.automateActs = ["return pr.actions.Ready()", "return pr.actions.Check()", "return pr.actions.Fold()"] ∧
    Facts.playerRequestMove.take 2 =
      ["if gs.HasAction(playerIdx, \"pass\") { return pr.actions.Pass() }",
       "if pr.status == PlayerStatus_Suspend { return pr.automate(gs, playerIdx) }"] := ⟨rfl, rfl, rfl⟩

/-- `playerRunner.UpdateTableState`, statement by statement (regenerated from actor/player_runner.go): a state that is not
newer than the last one seen is dropped **whatever hand it belongs to** — the `UpdatedAt` comparison is not skipped for a
state of another hand, so an update of the previous hand that is delivered late cannot re-arm the runner with a stale request. -/
def expectedPlayerUpdate : List String := ["gs := table.State.GameState", "pr.tableInfo = table", "if gs != nil { if gs.GameID != pr.curGameID { pr.curGameID = gs.GameID } if pr.lastGameStateTime >= gs.UpdatedAt { return nil } pr.lastGameStateTime = gs.UpdatedAt }", "isEliminated := true", "for _, ps := range table.State.PlayerStates { if ps.PlayerID == pr.playerID { isEliminated = false } }", "if isEliminated { return nil }", "gamePlayerIdx := pr.actor.GetTable().GetGamePlayerIndex(pr.playerID)", "pr.onTableStateUpdated(table)", "switch table.State.Status { case pokertable.TableStateStatus_TableGamePlaying: if gamePlayerIdx == -1 { return nil } if gs == nil { return nil } gs.AsPlayer(gamePlayerIdx) player := gs.GetPlayer(gamePlayerIdx) if len(player.AllowedActions) > 0 { pr.requestMove(gs, gamePlayerIdx) } }", "return nil"]

theorem C19_update_facts : Facts.playerUpdate = expectedPlayerUpdate := by rfl

/-- the player's own fold brings him back — the runner's status is `running` again — whether or not the table accepts the
fold (regenerated from actor/player_runner.go): a suspended player who presses Fold too late is still back, and the runner
waits his thinking time out at the next request -/
theorem C19_fold_resumes_fact : Facts.playerFold = ["pr.Resume()", "return pr.actions.Fold()"] := rfl

/-- the payments of `automate`, as the source has them now: the sizes posted for the running hand (`gs.Meta`), by
request and position, and nothing else -/
theorem C19_payment_facts :
    Facts.automateBody.drop 1 =
      ["switch gs.Status.CurrentEvent { case pokerface.GameEventSymbols[pokerface.GameEvent_AnteRequested]: return pr.actions.Pay(gs.Meta.Ante) case pokerface.GameEventSymbols[pokerface.GameEvent_BlindsRequested]: if gs.HasPosition(playerIdx, \"sb\") { return pr.actions.Pay(gs.Meta.Blind.SB) } else if gs.HasPosition(playerIdx, \"bb\") { return pr.actions.Pay(gs.Meta.Blind.BB) } return pr.actions.Pay(gs.Meta.Blind.Dealer) }",
       "return nil"] := by rfl

/-- **C19 — the most conservative move, never a voluntary chip**: `automate` yields ready, check, fold, a mandatory
payment of the posted size, or nothing — for every hand state and every player. -/
theorem C19_conservative (v : View) (gi : Nat) :
    automate v gi = some .ready ∨ automate v gi = some .check ∨ automate v gi = some .fold ∨
    (∃ c, automate v gi = some (.pay c) ∧ posted v gi = some c) ∨ automate v gi = none := by
  fun_cases automate v gi
  · exact .inl rfl
  · exact .inr (.inl rfl)
  · exact .inr (.inr (.inl rfl))
  · cases posted v gi with
    | none => exact .inr (.inr (.inr (.inr rfl)))
    | some c => exact .inr (.inr (.inr (.inl ⟨c, rfl, rfl⟩)))

/-- in particular it never calls, bets, raises or moves all-in -/
theorem C19_never_volunteers (v : View) (gi : Nat) (m : Move) (h : automate v gi = some m) :
    m.kind ≠ "call" ∧ m.kind ≠ "bet" ∧ m.kind ≠ "raise" ∧ m.kind ≠ "allin" := by
  rcases C19_conservative v gi with h1 | h1 | h1 | ⟨c, h1, _⟩ | h1 <;> rw [h1] at h <;> simp at h <;> subst h <;> simp [Move.kind]

/-- precedence: ready before check before fold before a payment -/
theorem C19_precedence (v : View) (gi : Nat) :
    (v.hasAction gi "ready" = true → automate v gi = some .ready) ∧
    (v.hasAction gi "ready" = false → v.hasAction gi "check" = true → automate v gi = some .check) ∧
    (v.hasAction gi "ready" = false → v.hasAction gi "check" = false → v.hasAction gi "fold" = true → automate v gi = some .fold) := by
  unfold automate
  refine ⟨fun h => ?_, fun h1 h2 => ?_, fun h1 h2 h3 => ?_⟩
  · rw [if_pos h]
  · rw [if_neg (ne_true_of_eq_false h1), if_pos h2]
  · rw [if_neg (ne_true_of_eq_false h1), if_neg (ne_true_of_eq_false h2), if_pos h3]

/-- the payment is the posted size: the ante at an ante request; at a blinds request the small blind for the `sb`
position, else the big blind for `bb`, else the dealer blind -/
theorem C19_posted_size (v : View) (gi : Nat) :
    (v.event = "AnteRequested" → posted v gi = some v.ante) ∧
    (v.event = "BlindsRequested" → v.hasPosition gi "sb" = true → posted v gi = some v.bSB) ∧
    (v.event = "BlindsRequested" → v.hasPosition gi "sb" = false → v.hasPosition gi "bb" = true → posted v gi = some v.bBB) ∧
    (v.event ≠ "AnteRequested" → v.event ≠ "BlindsRequested" → posted v gi = none) := by
  have hne := requestEvents_ne.2.2
  unfold posted
  refine ⟨fun h => ?_, fun h hs => ?_, fun h hs hb => ?_, fun h1 h2 => ?_⟩
  · rw [if_pos (beq_iff_eq.2 h)]
  · rw [h, if_neg hne, if_pos (beq_self_eq_true _), if_pos hs]
  · rw [h, if_neg hne, if_pos (beq_self_eq_true _), if_neg (ne_true_of_eq_false hs), if_pos hb]
  · rw [if_neg (mt beq_iff_eq.1 h1), if_neg (mt beq_iff_eq.1 h2)]

/-- **C19 — pass at once when that is the option; a suspended player is acted for at once; otherwise nothing happens
before the thinking time has elapsed** (the time bank is armed with exactly the action time), and what happens then is
`automate`. -/
theorem C19_wait (status : PStatus) (actionTime : Int) (v : View) (gi : Nat) :
    (v.hasAction gi "pass" = true → requestMove status actionTime v gi = .now .pass) ∧
    (v.hasAction gi "pass" = false → status = .suspend →
      requestMove status actionTime v gi = (match automate v gi with | some m => .now m | none => .nothing)) ∧
    (v.hasAction gi "pass" = false → status ≠ .suspend → requestMove status actionTime v gi = .after actionTime (automate v gi)) := by
  unfold requestMove
  refine ⟨fun h => ?_, fun h hs => ?_, fun h hs => ?_⟩
  · rw [if_pos h]
  · rw [if_neg (ne_true_of_eq_false h), if_pos (beq_iff_eq.2 hs)]; rfl
  · rw [if_neg (ne_true_of_eq_false h), if_neg (mt beq_iff_eq.1 hs)]

-- non-vacuity: facing a bet with call / fold / raise / all-in allowed the runner folds; at a blinds request the bb pays 20
example : automate exView 0 = some .fold ∧
    automate { exView with event := "BlindsRequested", players := exView.players.map (fun p => { p with allowed := if p.idx == 2 then ["pay"] else [] }) } 2 = some (.pay 20) ∧
    requestMove .running 7 exView 0 = .after 7 (some .fold) := by decide +kernel

/-- the runner's status machine as the source has it now (regenerated from actor/player_runner.go): `AC.pIdle`, `pSuspend`,
`pResume` are these three bodies -/
theorem C19_status_machine_facts :
    Facts.playerIdle =
      ["if pr.status != PlayerStatus_Idle { pr.status = PlayerStatus_Idle pr.idleCount = 0 } else { pr.idleCount++ }",
       "if pr.idleCount == pr.suspendThreshold { return pr.Suspend() }", "return nil"] ∧
    Facts.playerSuspend = ["pr.status = PlayerStatus_Suspend", "return nil"] ∧
    Facts.playerResume =
      ["if pr.status == PlayerStatus_Running { return nil }", "pr.status = PlayerStatus_Running", "pr.idleCount = 0", "return nil"] :=
  ⟨rfl, rfl, rfl⟩

/-- **C19 — an idle report ends a suspension**: whatever the runner's status and count were, suspended and then reported
idle the player is idle — not suspended — with a fresh count; and so is any player who was not idle -/
theorem C19_idle_report_ends_suspension (s : PSt) :
    (pIdle (pSuspend s)).status = .idle ∧ (pIdle (pSuspend s)).idleCount = 0 ∧
    (s.status ≠ .idle → (pIdle s).status = .idle ∧ (pIdle s).idleCount = 0) := by
  refine ⟨by simp [pIdle, pSuspend, suspendThreshold], by simp [pIdle, pSuspend, suspendThreshold], fun h => ?_⟩
  cases hs : s.status <;> simp_all [pIdle, suspendThreshold]

/-- **C19 — … and so the thinking time applies again**: after a suspension followed by an idle report the runner does
nothing at once (unless a pass is the only option) — it arms the time bank with the player's thinking time, for every view -/
theorem C19_waits_again_after_idle_report (s : PSt) (actionTime : Int) (v : View) (gi : Nat)
    (hp : v.hasAction gi "pass" = false) :
    requestMove (pIdle (pSuspend s)).status actionTime v gi = .after actionTime (automate v gi) := by
  have h := (C19_idle_report_ends_suspension s).1
  unfold requestMove
  simp [hp, h]

/-- a player is suspended by the runner itself only at the second idle report in a row on an idle player; a come-back
(`Resume`, or the player's own move) makes him running with a fresh count -/
theorem C19_status_paths :
    (pRun {} "SI".toList).status = .idle ∧ (pRun {} "II".toList).status = .idle ∧ (pRun {} "III".toList).status = .suspend ∧
    (pRun {} "SIR".toList).status = .running ∧ (pRun {} "IIIR".toList) = {} ∧ (pRun {} "IS".toList).status = .suspend := by decide +kernel

end AC
