import PokerVerif.AC
/-! Helper lemmas for C18: `GetAvailableActions` by membership, inversion of the bot's move set, what the hand engine
accepts of an allowed action. -/
namespace AC
open HD

/-- `GetAvailableActions` by membership: the cascade of `PF.available` with, at each leaf, the words on offer there -/
theorem mem_available {v : View} {p : PView} {a : String} : a ∈ PF.available v p ↔
    if p.fold = true then a = "pass" else if p.stack = 0 then a = "pass" else
      a = "allin" ∨
        if p.wager < v.wager then
          a = "fold" ∨
            if p.init > v.wager then a = "call" ∨ if p.init > v.wager + v.prev then a = "raise" else False else False
        else a = "check" ∨ if p.init ≥ v.mini then if v.wager = 0 then a = "bet" else a = "raise" else False := by
  simp only [PF.available, apply_ite (a ∈ ·), List.mem_append, List.mem_singleton, List.not_mem_nil, beq_iff_eq]

theorem raise_available (v : View) (p : PView) (h : "raise" ∈ PF.available v p) :
    p.stack ≠ 0 ∧ ((p.wager < v.wager ∧ p.init > v.wager ∧ p.init > v.wager + v.prev) ∨
                    (¬ p.wager < v.wager ∧ p.init ≥ v.mini ∧ v.wager ≠ 0)) := by
  -- "raise" is none of the other words, which leaves the guards on the way to the two leaves that offer it
  simp only [mem_available, String.reduceEq, false_or, if_false_left, if_false_right, if_true_right, and_true] at h
  obtain ⟨_, hs, h⟩ := h
  refine ⟨hs, ?_⟩
  split at h
  · exact .inl ⟨‹_›, h⟩
  · exact .inr ⟨‹_›, h⟩

theorem bet_available (v : View) (p : PView) (h : "bet" ∈ PF.available v p) :
    p.stack ≠ 0 ∧ ¬ p.wager < v.wager ∧ p.init ≥ v.mini ∧ v.wager = 0 := by
  simp only [mem_available, String.reduceEq, false_or, if_false_left, if_false_right, and_true, ite_self] at h
  exact h.2

/-- the amounts `requestAI` draws a bet or a raise from, `mn` being the minimum: the whole stack if that is no more than the
minimum, else anything from the minimum up to one short of the stack -/
def span (init mn : Int) : Int × Int := if init ≤ mn then (init, init) else (mn, init - 1)

theorem span_spec {init mn lo hi : Int} (h : span init mn = (lo, hi)) :
    lo ≤ hi ∧ ∀ a, lo ≤ a → a ≤ hi → a ≤ init ∧ (a = init ∨ mn ≤ a) := by
  unfold span at h
  split at h <;> cases h
  · exact ⟨Int.le_refl _, fun a h1 h2 => ⟨h2, Or.inl (Int.le_antisymm h2 h1)⟩⟩
  · exact ⟨by omega, fun a h1 h2 => ⟨by omega, Or.inr h1⟩⟩

theorem ite_span (mk : Int → Int → Move) (init mn : Int) :
    (if init ≤ mn then mk init init else mk mn (init - 1)) = mk (span init mn).1 (span init mn).2 := by
  unfold span; split <;> rfl

theorem aiMoves_cases {v : View} {p : PView} {m : Move} (h : m ∈ aiMoves v p) : ∃ a ∈ p.allowed,
    (a = "bet" ∧ m = .bet (span p.init v.mini).1 (span p.init v.mini).2) ∨
    (a = "raise" ∧ m = .raise (span p.init (v.wager + v.prev)).1 (span p.init (v.wager + v.prev)).2) ∨
    (a = "call" ∧ m = .call) ∨ (a = "check" ∧ m = .check) ∨ (a = "allin" ∧ m = .allin) ∨
    ((a ≠ "bet" ∧ a ≠ "raise" ∧ a ≠ "call" ∧ a ≠ "check" ∧ a ≠ "allin") ∧ m = .fold) := by
  obtain ⟨a, ha, hm⟩ := List.mem_map.mp h
  refine ⟨a, ha, ?_⟩
  replace hm := hm.symm
  -- down the `switch`, one word after the other; `a` stays a variable, so no two words are ever compared
  by_cases h1 : (a == "bet") = true
  · exact .inl ⟨eq_of_beq h1, hm.trans ((if_pos h1).trans (ite_span ..))⟩
  rw [if_neg h1] at hm
  by_cases h2 : (a == "raise") = true
  · exact .inr (.inl ⟨eq_of_beq h2, hm.trans ((if_pos h2).trans (ite_span ..))⟩)
  rw [if_neg h2] at hm
  by_cases h3 : (a == "call") = true
  · exact .inr (.inr (.inl ⟨eq_of_beq h3, hm.trans (if_pos h3)⟩))
  rw [if_neg h3] at hm
  by_cases h4 : (a == "check") = true
  · exact .inr (.inr (.inr (.inl ⟨eq_of_beq h4, hm.trans (if_pos h4)⟩)))
  rw [if_neg h4] at hm
  by_cases h5 : (a == "allin") = true
  · exact .inr (.inr (.inr (.inr (.inl ⟨eq_of_beq h5, hm.trans (if_pos h5)⟩))))
  rw [if_neg h5] at hm
  exact .inr (.inr (.inr (.inr (.inr
    ⟨⟨mt beq_of_eq h1, mt beq_of_eq h2, mt beq_of_eq h3, mt beq_of_eq h4, mt beq_of_eq h5⟩, hm⟩))))

theorem aiMoves_bet (v : View) (p : PView) (lo hi : Int) (h : Move.bet lo hi ∈ aiMoves v p) :
    "bet" ∈ p.allowed ∧ span p.init v.mini = (lo, hi) := by
  obtain ⟨a, ha, ⟨rfl, hm⟩ | ⟨_, hm⟩ | ⟨_, hm⟩ | ⟨_, hm⟩ | ⟨_, hm⟩ | ⟨_, hm⟩⟩ := aiMoves_cases h <;> cases hm
  exact ⟨ha, rfl⟩

theorem aiMoves_raise (v : View) (p : PView) (lo hi : Int) (h : Move.raise lo hi ∈ aiMoves v p) :
    "raise" ∈ p.allowed ∧ span p.init (v.wager + v.prev) = (lo, hi) := by
  obtain ⟨a, ha, ⟨_, hm⟩ | ⟨rfl, hm⟩ | ⟨_, hm⟩ | ⟨_, hm⟩ | ⟨_, hm⟩ | ⟨_, hm⟩⟩ := aiMoves_cases h <;> cases hm
  exact ⟨ha, rfl⟩

theorem aiMoves_kind (v : View) (p : PView) (hk : ∀ a ∈ p.allowed, a ∈ wagerKinds) (m : Move) (h : m ∈ aiMoves v p) :
    m.kind ∈ p.allowed := by
  obtain ⟨a, ha, ⟨rfl, rfl⟩ | ⟨rfl, rfl⟩ | ⟨rfl, rfl⟩ | ⟨rfl, rfl⟩ | ⟨rfl, rfl⟩ | ⟨⟨n1, n2, n3, n4, n5⟩, rfl⟩⟩ :=
    aiMoves_cases h
  iterate 5 exact ha
  -- the one wager kind the `switch` does not name is the one it falls through to
  have hw := hk a ha
  simp only [wagerKinds, List.mem_cons, List.not_mem_nil, n1, n2, n3, n4, n5, or_false] at hw
  subst hw; exact ha

/-- the engine accepts an allowed action; of a raise it wants a level that is not 0 and not below the current wager -/
theorem accepts_allowed {v : View} {p : PView} {kind : String} {arg : Int} (hc : p.allowed.contains kind = true)
    (hr : kind = "raise" → arg ≠ 0 ∧ v.wager ≤ arg) : PF.accepts v p kind arg = true := by
  fun_cases PF.accepts v p kind arg
  case case2 h => rw [hc] at h; cases h
  case case3 h =>
    obtain ⟨h0, hw⟩ := hr (eq_of_beq h)
    simp only [Bool.not_eq_true', Bool.or_eq_false_iff, beq_eq_false_iff_ne, decide_eq_false_iff_not, Int.not_lt]
    exact ⟨h0, hw⟩
  all_goals rfl
end AC
