import PokerVerif.Lemmas.TBBooked
import PokerVerif.Lemmas.TBLedger
/-!
# The hand's player indexes stay inside the player list; departures cannot panic

`GidxOK s`: every entry of `GamePlayerIndexes` is an index into the player list.  It holds in every reachable state
(`step_inv4`, TBInv): the list is built from valid indexes at every open (`gameIndexes_valid`), re-mapped through the ids at every
departure (D30: since the fix, whatever the table status), emptied by the continue step, and everything else leaves it and
the length of the player list alone.  With `Booked`, it is all `calcLeavePlayers` needs: **`PlayersLeave` cannot panic in
a reachable state** (`batchRemove_no_panic`).
-/
namespace TB

def GidxOK (s : State) : Prop := ∀ gi ∈ s.gidx, 0 ≤ gi ∧ gi.toNat < s.players.length

theorem GidxOK.keep {a b : State} (hl : a.players.length = b.players.length) (hg : a.gidx = b.gidx ∨ a.gidx = [])
    (w : GidxOK b) : GidxOK a := by
  intro gi hgi
  rcases hg with hg | hg
  · rw [hg] at hgi; rw [hl]; exact w gi hgi
  · rw [hg] at hgi; cases hgi

theorem gameIndexes_valid (s : State) (ps : List Player) (gi : List Int) (h : gameIndexes s ps = some gi) :
    ∀ x ∈ gi, 0 ≤ x ∧ x.toNat < ps.length := by
  intro x hx
  suffices hp : partOf ps x = true by
    obtain ⟨h0, p, hp, _⟩ := partOf_eq_true.mp hp
    exact ⟨h0, (List.getElem?_eq_some_iff.mp hp).1⟩
  revert h
  fun_cases gameIndexes s ps <;> intro h
  · cases h
  · cases h; cases hx
  · cases h; exact (List.mem_filter.mp hx).2
  · rw [collect_fold _ _ _ [] gi h] at hx
    obtain ⟨seat, _, hpick⟩ := List.mem_filterMap.mp hx
    exact (pickAt_eq_some.mp hpick).2

theorem openCore_gidx (s : State) (ch : Option Int) (ok : Bool) (w : GidxOK s) : GidxOK (openCore s ch ok).1 := by
  rcases openCore_cases s ch ok with ⟨h, _⟩ | ⟨ps, gi, ps2, _, _, hgi, hap, h⟩
  · rw [h]; exact w
  · have hv : GidxOK (openedState s (if !s.sm.isInit then SM.init s.sm ch else SM.rotate s.sm).1 ps2 gi) := by
      intro x hx
      have hl := congrArg List.length (assignPositions_map (fun _ => ()) (fun _ _ => rfl) _ _ _ hap)
      simp only [List.length_map] at hl
      show 0 ≤ x ∧ x.toNat < ps2.length
      rw [hl]; exact gameIndexes_valid _ ps gi hgi x hx
    rcases h with ⟨h, _⟩ | h <;> (rw [h]; exact hv)

theorem batchAdd_gidx (s : State) (js : List Join) (ch : List Int) (w : GidxOK s) : GidxOK (batchAdd s js ch).1 := by
  obtain ⟨extra, hp, hg, _⟩ := batchAdd_appends s js ch
  intro gi hgi
  rw [hg] at hgi
  rw [hp, List.length_append]
  exact ⟨(w gi hgi).1, Nat.lt_add_right _ (w gi hgi).2⟩

/-- `PlayersLeave` cannot panic on a table whose seat bookkeeping is consistent and whose hand list points into the
player list: the seat map can be rebuilt for those who stay, and every hand-list entry names a listed player -/
theorem batchRemove_no_panic (s : State) (ids : List Nat) (hb : Booked s) (hg : GidxOK s) :
    (batchRemove s ids).2 ≠ .panic := by
  rcases batchRemove_cases s ids with ⟨_, h⟩ | ⟨_, hm | ho⟩ | ⟨_, _, _, _, _, h⟩
  · rw [h]; nofun
  · refine absurd hm (rebuild_go_some _ _ _ fun p hp => ?_)
    have := hb.seat_range (List.mem_filter.mp hp).1
    rwa [← List.length_replicate (n := s.cfg.maxSeat) (a := (-1 : Int))] at this
  · obtain ⟨gi, hgi, hnone⟩ := (mapM_option _ _).1 ho
    obtain ⟨h0, hl⟩ := hg gi hgi
    rw [if_pos h0, List.getElem?_eq_getElem hl] at hnone; cases hnone
  · rw [h]; nofun

theorem batchRemove_gidx (s : State) (ids : List Nat) (w : GidxOK s) : GidxOK (batchRemove s ids).1 := by
  rcases batchRemove_cases s ids with ⟨_, h⟩ | ⟨h, _⟩ | ⟨_, _, _, _, _, h⟩ <;> rw [h]
  · exact w
  · exact w
  · intro gi hgi
    obtain ⟨id, _, hid⟩ := List.mem_filterMap.mp hgi
    generalize hf : findIdxAux id _ 0 = r at hid
    cases r with
    | none => cases hid
    | some k => cases hid; exact ⟨Int.natCast_nonneg k, (Nat.zero_add _ ▸ findIdxAux_lt id _ 0 k hf).2⟩

/-- a step that is neither an arrival nor a departure keeps the hand's list inside the player list: it leaves both alone,
empties the list (continue step), or builds it anew from valid indexes (an open) -/
theorem calm_gidx (s : State) (e : Event) (h : Calm s e) (w : GidxOK s) : GidxOK (step s e) := by
  by_cases ho : Opening e
  case neg =>
    have hl := congrArg List.length ((calm_keeps s e h).players (fun _ => ()) (.inr fun _ _ => rfl) (fun _ _ => rfl) (.inr fun _ _ => rfl))
    rw [List.length_map, List.length_map] at hl
    exact .keep hl ((calm_keeps s e h).gidx ho) w
  obtain ⟨ch, ok, rfl | rfl⟩ := ho
  · show GidxOK (gateFire s ch ok).1
    rcases gateFire_cases s ch ok with ⟨o, h, _⟩ | ⟨_, h⟩ <;> rw [h]
    · exact w
    · exact openCore_gidx _ ch ok w
  · show GidxOK (retryOpen s ch ok).1
    rcases retryOpen_cases s ch ok with ⟨_, h, _⟩ | ⟨_, _, _, _, _, h⟩ <;> rw [h]
    · exact w
    · exact openCore_gidx s ch ok w

theorem create_gidx (cfg : Meta) (b : Blind) : GidxOK (create cfg b) := fun _ h => nomatch h

/-! ### A departure keeps the hand's list denoting the same players

`entryId ps gi`: the id of the player entry `gi` of the hand's list denotes.  After a successful `PlayersLeave` the list,
read against the new player list, names exactly the players it named before minus those who left, in the same order
(`batchRemove_entries`) — whatever the table status (D30). -/

def entryId (ps : List Player) (gi : Int) : Option Nat := if 0 ≤ gi then (ps[gi.toNat]?).map (·.id) else none

theorem entryId_listed {ps : List Player} {gi : Int} {id : Nat} (h : entryId ps gi = some id) : ∃ p ∈ ps, p.id = id := by
  unfold entryId at h
  split at h
  · obtain ⟨p, hp, hid⟩ := Option.map_eq_some_iff.mp h
    exact ⟨p, List.mem_of_getElem? hp, hid⟩
  · cases h

/-- the id a re-mapped entry denotes in the list of those who stay: the id itself if its player stays, nothing otherwise -/
theorem remap_entry (keep : List Player) (id : Nat) :
    ((findIdxAux id keep 0).map (fun k => (k : Int))).bind (entryId keep) =
      Option.guard (fun id => keep.any (fun p => p.id == id)) id := by
  unfold Option.guard
  cases hf : findIdxAux id keep 0 with
  | none =>
    refine (if_neg fun h => ?_).symm
    obtain ⟨p, hp, he⟩ := List.any_eq_true.mp h
    exact findIdxAux_none id keep 0 hf p hp (eq_of_beq he)
  | some k =>
    obtain ⟨_, p, hp, hid⟩ := findIdxAux_some id keep 0 k hf
    have hany : keep.any (fun p => p.id == id) = true :=
      List.any_eq_true.mpr ⟨p, List.mem_of_getElem? hp, beq_iff_eq.mpr hid⟩
    refine Eq.trans ?_ (if_pos hany).symm
    show entryId keep (k : Int) = some id
    rw [entryId, if_pos (Int.natCast_nonneg k), Int.toNat_natCast, show keep[k]? = some p from hp, ← hid]; rfl

theorem batchRemove_entries (s : State) (ids : List Nat) (hok : (batchRemove s ids).2 = .ok) :
    (batchRemove s ids).1.gidx.filterMap (entryId (batchRemove s ids).1.players) =
      (s.gidx.filterMap (entryId s.players)).filter (fun id => !(ids.contains id)) := by
  rcases batchRemove_cases s ids with ⟨_, h⟩ | ⟨h, _⟩ | ⟨m, oids, _, _, ho, heq⟩
  iterate 2 rw [h] at hok; cases hok
  cases (mapM_option (entryId s.players) s.gidx).2 oids ho
  rw [heq]
  dsimp only
  rw [List.filterMap_filterMap]
  simp only [remap_entry]
  rw [List.filterMap_eq_filter]
  refine List.filter_congr fun id hid => ?_
  -- an old entry denotes a listed player: he is among those who stay iff he is not among the leavers
  obtain ⟨gi, _, he⟩ := List.mem_filterMap.mp hid
  obtain ⟨p, hp, rfl⟩ := entryId_listed he
  rw [List.any_filter, Bool.eq_iff_iff, List.any_eq_true]
  exact ⟨fun ⟨q, _, hq⟩ => eq_of_beq (Bool.and_eq_true_iff.mp hq).2 ▸ (Bool.and_eq_true_iff.mp hq).1,
    fun h => ⟨p, hp, Bool.and_eq_true_iff.mpr ⟨h, beq_self_eq_true _⟩⟩⟩

end TB
