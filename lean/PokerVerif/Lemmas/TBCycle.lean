import PokerVerif.Lemmas.TBFrame
/-!
# The hand cycle: status, hand held, hand count, released flag, published blinds

Five fields that only the hand cycle (open, settlement, continue step) and the administrative calls pause / close / release
write.  Events outside the cycle leave status and hand held alone (`outside_cycle`); only an attempt to open a hand writes the
count and the published blinds, and nothing clears the released flag (`not_opening`) — both read off `calm_keeps`, arrivals and
departures writing none of the five.  `openCore_cycle`: what an attempt to open does to them; the gate's callback and a turn
of the retry loop are such an attempt or change nothing (`gateFire_cycle`, `retryOpen_cases`).  From these: a released table
is never dealt another hand (`step_released`), the status moves along the life cycle (`step_lifeCycle`, `run_lifeCycle`).
-/
namespace TB

theorem membership_cycle (s : State) (e : Event) (h : ¬ Calm s e) :
    (step s e).status = s.status ∧ (step s e).hasGame = s.hasGame ∧ (step s e).gameCount = s.gameCount ∧
    (step s e).released = s.released ∧ (step s e).gameBlind = s.gameBlind := by
  refine step_induct'
    (P := fun t => t.status = s.status ∧ t.hasGame = s.hasGame ∧ t.gameCount = s.gameCount ∧ t.released = s.released ∧
      t.gameBlind = s.gameBlind) (fun t js ch w => ?_) (fun t ids w => ?_) ⟨rfl, rfl, rfl, rfl, rfl⟩ fun hc => absurd hc h
  · rcases batchAdd_cases t js ch with ⟨_, _, h, _⟩ | ⟨_, _, _, _, h⟩ <;> rw [h] <;> exact w
  · rcases batchRemove_cases t ids with ⟨_, h⟩ | ⟨h, _⟩ | ⟨_, _, _, _, _, h⟩ <;> rw [h] <;> exact w

theorem outside_cycle (s : State) (e : Event) (h : Outside e) :
    (step s e).status = s.status ∧ (step s e).hasGame = s.hasGame := by
  by_cases hc : Calm s e
  · exact ⟨(calm_keeps s e hc).status h, (calm_keeps s e hc).hasGame h⟩
  · exact ⟨(membership_cycle s e hc).1, (membership_cycle s e hc).2.1⟩

/-- `openGame` + `startGame` and the hand-cycle fields (in the order status, hand held, count, published blinds): no hand is
opened — nothing moves, or the table is left `opened` with the count raised (the back end refused the hand, or the engine
died) — or the hand is opened -/
theorem openCore_cycle (s : State) (ch : Option Int) (ok : Bool) :
    ((openCore s ch ok).2 ≠ .opened ∧
        (((openCore s ch ok).1.status = s.status ∧ (openCore s ch ok).1.gameCount = s.gameCount) ∨
         ((openCore s ch ok).1.status = .opened ∧ (openCore s ch ok).1.gameCount = s.gameCount + 1 ∧
           ((openCore s ch ok).2 = .panic ∨ (openCore s ch ok).2 = .startFailed))) ∧
        (openCore s ch ok).1.hasGame = s.hasGame ∧ (openCore s ch ok).1.gameBlind = s.gameBlind) ∨
     ((openCore s ch ok).2 = .opened ∧ (openCore s ch ok).1.status = .playing ∧ (openCore s ch ok).1.hasGame = true ∧
        (openCore s ch ok).1.gameCount = s.gameCount + 1 ∧ (openCore s ch ok).1.gameBlind = some s.blind) := by
  rcases openCore_cases s ch ok with ⟨h, ho⟩ | ⟨_, _, _, _, _, _, _, ⟨h, ho⟩ | h⟩
  · rw [h]; exact .inl ⟨by rcases ho with ⟨ho, _⟩ | ho <;> simp [ho], .inl ⟨rfl, rfl⟩, rfl, rfl⟩
  · rw [h]; exact .inl ⟨by rcases ho with ho | ho <;> simp [ho], .inr ⟨rfl, rfl, ho⟩, rfl, rfl⟩
  · rw [h]; exact .inr ⟨rfl, rfl, rfl, rfl, rfl⟩

theorem openCore_opened (s : State) (ch : Option Int) (ok : Bool) (h : (openCore s ch ok).2 = .opened) :
    (openCore s ch ok).1.status = .playing ∧ (openCore s ch ok).1.hasGame = true ∧
    (openCore s ch ok).1.gameCount = s.gameCount + 1 ∧ (openCore s ch ok).1.gameBlind = some s.blind :=
  ((openCore_cycle s ch ok).resolve_left fun h' => h'.1 h).2

/-- the gate's callback: it leaves the five fields alone and opens no hand, or — the table not released, not closed and
holding no hand — is `openGame` + `startGame` (`gateReady` only marks the gate's participants) -/
theorem gateFire_cycle (s : State) (ch : Option Int) (ok : Bool) :
    ((gateFire s ch ok).2 ≠ .opened ∧ (gateFire s ch ok).1.status = s.status ∧ (gateFire s ch ok).1.hasGame = s.hasGame ∧
      (gateFire s ch ok).1.gameCount = s.gameCount ∧ (gateFire s ch ok).1.released = s.released ∧
      (gateFire s ch ok).1.gameBlind = s.gameBlind) ∨
    (s.released = false ∧ s.status ≠ .closed ∧ s.hasGame = false ∧ gateFire s ch ok = openCore (gateReady s) ch ok) := by
  rcases gateFire_cases s ch ok with ⟨o, h, ho⟩ | ⟨hg, h⟩
  · rw [h]; exact .inl ⟨by rcases ho with rfl | rfl <;> simp, rfl, rfl, rfl, rfl, rfl⟩
  · obtain ⟨_, h1, h2, h3, _⟩ := (openGuard_go _).mp hg
    exact .inr ⟨h1, h2, h3, h⟩

theorem not_opening (s : State) (e : Event) (h : ¬ Opening e) :
    (step s e).gameCount = s.gameCount ∧ (step s e).gameBlind = s.gameBlind ∧
    (s.released = true → (step s e).released = true) := by
  by_cases hc : Calm s e
  · exact ⟨(calm_keeps s e hc).gameCount h, (calm_keeps s e hc).gameBlind h, (calm_keeps s e hc).stillReleased⟩
  · obtain ⟨_, _, h3, h4, h5⟩ := membership_cycle s e hc
    exact ⟨h3, h5, h4.trans⟩

theorem step_released (s : State) (e : Event) (h : s.released = true) :
    (step s e).released = true ∧ (step s e).gameCount = s.gameCount := by
  by_cases ho : Opening e
  case neg => exact ⟨(not_opening s e ho).2.2 h, (not_opening s e ho).1⟩
  obtain ⟨ch, ok, rfl | rfl⟩ := ho
  · rcases gateFire_cycle s ch ok with ⟨_, _, _, h3, h4, _⟩ | ⟨hr, _⟩
    · exact ⟨h4.trans h, h3⟩
    · rw [h] at hr; cases hr
  · rcases retryOpen_cases s ch ok with ⟨_, h', _⟩ | ⟨hr, _⟩
    · rw [show step s (.retry ch ok) = _ from congrArg Prod.fst h']; exact ⟨h, rfl⟩
    · rw [h] at hr; cases hr

/-- a table whose status says a hand is being played or has just been settled holds that hand -/
def LCInv (s : State) : Prop := (s.status = .playing ∨ s.status = .settled) → s.hasGame = true

/-- "left to itself": no external pause / close; the hand's end, the continue step and its delayed handler come when the
engine produces them — the back end closes a hand that is being played, the continue step follows the settlement, the
handler finds the table where the continue step left it -/
def Timely (s : State) : Event → Prop
  | .pause => False
  | .close => False
  | .settle _ => s.status = .playing
  | .continue _ => s.status = .settled
  | .contReset => s.status = .settled
  | .tick _ => s.status = .standby ∨ s.status = .pausing
  | _ => True

instance (s : State) (e : Event) : Decidable (Timely s e) := by
  cases e <;> (unfold Timely; exact inferInstance)

def AllTimely : State → List Event → Prop
  | _, [] => True
  | s, e :: t => Timely s e ∧ AllTimely (step s e) t

instance allTimelyDec : (s : State) → (evs : List Event) → Decidable (AllTimely s evs)
  | _, [] => isTrue trivial
  | s, e :: t => by
    unfold AllTimely
    exact @instDecidableAnd _ _ _ (allTimelyDec (step s e) t)

instance (s : State) : Decidable (LCInv s) := by unfold LCInv; exact inferInstance

theorem lcNext_of_eq {a b : Status} (h : b = a) : lcNext a b = true := by
  subst h
  cases b <;> rfl

theorem mayOpen_of {a : Status} (hc : a ≠ .closed) (hp : a ≠ .playing) (hs : a ≠ .settled) :
    (beforeHand a || a == .opened) = true := by
  cases a <;> first | rfl | contradiction

theorem openCore_lifeCycle (s : State) (ch : Option Int) (ok : Bool) (hi : LCInv s)
    (hb : (beforeHand s.status || s.status == .opened) = true) :
    lcNext s.status (openCore s ch ok).1.status = true ∧ LCInv (openCore s ch ok).1 := by
  rcases openCore_cycle s ch ok with ⟨_, ⟨hs, _⟩ | ⟨hs, _⟩, hg, _⟩ | ⟨_, hs, hg, _⟩
  · exact ⟨lcNext_of_eq hs, fun hp => by rw [hg]; exact hi (by rw [← hs]; exact hp)⟩
  · refine ⟨by rw [hs]; unfold lcNext; simp [hb], fun hp => ?_⟩
    rw [hs] at hp; rcases hp with hp | hp <;> cases hp
  · exact ⟨by rw [hs]; unfold lcNext; simp [hb], fun _ => hg⟩

theorem step_lifeCycle (s : State) (e : Event) (hi : LCInv s) (ht : Timely s e) :
    lcNext s.status (step s e).status = true ∧ LCInv (step s e) := by
  have quiet : ∀ t : State, t.status = s.status → t.hasGame = s.hasGame → lcNext s.status t.status = true ∧ LCInv t :=
    fun t h1 h2 => ⟨lcNext_of_eq h1, fun hb => by rw [h2]; exact hi (by rw [← h1]; exact hb)⟩
  have cont : ∀ ex, s.status = .settled →
      lcNext s.status (continueGame s ex).1.status = true ∧ LCInv (continueGame s ex).1 := fun ex hp => by
    obtain ⟨_, _, _, _, _, h, hst, _⟩ := continueGame_shape s ex
    rw [h]
    exact ⟨by rcases hst with rfl | rfl <;> (rw [hp]; rfl), fun hq => by rcases hst with rfl | rfl <;> rcases hq with c | c <;> cases c⟩
  by_cases ho : Outside e
  · exact quiet _ (outside_cycle s e ho).1 (outside_cycle s e ho).2
  cases e with
  | pause | close => exact absurd ht id
  | release => exact quiet _ rfl rfl
  | settle r =>
    obtain ⟨_, _, h, _⟩ := settle_shape s r
    have hp : s.status = .playing := ht
    rw [show step s (.settle r) = _ from h]
    exact ⟨by rw [hp]; rfl, fun _ => hi (.inl hp)⟩
  | «continue» ex => exact cont ex ht
  | contReset => exact cont true ht
  | tick ex =>
    obtain ⟨_, _, _, h, hst⟩ := nextMove_shape s ex
    have hp : s.status = .standby ∨ s.status = .pausing := ht
    rw [show step s (.tick ex) = _ from h]
    rcases hst with rfl | rfl
    · exact quiet _ rfl rfl
    · exact ⟨by rcases hp with hp | hp <;> (rw [hp]; rfl), fun hq => by rcases hq with c | c <;> cases c⟩
  | fire ch ok =>
    rcases gateFire_cycle s ch ok with ⟨_, h1, h2, _⟩ | ⟨_, hnc, hng, h⟩
    · exact quiet _ h1 h2
    · have hnp : ¬ (s.status = .playing ∨ s.status = .settled) := fun hp => by
        have := hi hp; rw [hng] at this; cases this
      rw [show step s (.fire ch ok) = _ from congrArg Prod.fst h]
      exact openCore_lifeCycle (gateReady s) ch ok hi (mayOpen_of hnc (fun h => hnp (.inl h)) (fun h => hnp (.inr h)))
  | retry ch ok =>
    rcases retryOpen_cases s ch ok with ⟨_, h, _⟩ | ⟨_, hnc, hnh, _, _, h⟩ <;>
      rw [show step s (.retry ch ok) = _ from congrArg Prod.fst h]
    · exact quiet _ rfl rfl
    · exact openCore_lifeCycle s ch ok hi
        (mayOpen_of hnc (fun h => by rw [h] at hnh; cases hnh) (fun h => by rw [h] at hnh; cases hnh))
  | _ => exact absurd trivial ho

theorem run_lifeCycle (s : State) (evs : List Event) (hi : LCInv s) (ht : AllTimely s evs) :
    LCInv (run s evs) ∧
    ∀ pre e post, evs = pre ++ e :: post → lcNext (run s pre).status (run s (pre ++ [e])).status = true := by
  induction evs generalizing s with
  | nil => exact ⟨hi, fun pre e post h => by cases pre <;> cases h⟩
  | cons a t ih =>
    have hs := step_lifeCycle s a hi ht.1
    have := ih (step s a) hs.2 ht.2
    refine ⟨this.1, fun pre e post h => ?_⟩
    cases pre with
    | nil =>
      simp only [List.nil_append, List.cons.injEq] at h
      obtain ⟨rfl, _⟩ := h
      exact hs.1
    | cons p pre' =>
      simp only [List.cons_append, List.cons.injEq] at h
      obtain ⟨rfl, h⟩ := h
      exact this.2 pre' e post h

theorem create_lcInv (cfg : Meta) (b : Blind) : LCInv (create cfg b) := by
  intro h
  unfold create at h
  simp only at h
  split at h <;> (rcases h with h | h <;> cases h)

end TB
