import PokerVerif.Lemmas.TBFrame
import PokerVerif.Lemmas.TBSeats
/-! Chips: the bankroll total through every step of the table model (`Ledger`); what a settlement credits to whom. -/
namespace TB

def bankrolls (ps : List Player) : Int := (ps.map (·.bankroll)).sum
def total (s : State) : Int := bankrolls s.players

theorem bankrolls_nil : bankrolls [] = 0 := rfl
theorem bankrolls_cons (p : Player) (t : List Player) : bankrolls (p :: t) = p.bankroll + bankrolls t := rfl
theorem bankrolls_append (a b : List Player) : bankrolls (a ++ b) = bankrolls a + bankrolls b := by
  unfold bankrolls; rw [List.map_append, List.sum_append_int]

theorem bankrolls_modify (ps : List Player) (i : Nat) (f : Player → Player) (c : Int)
    (hf : ∀ p, (f p).bankroll = p.bankroll + c) (hi : i < ps.length) :
    bankrolls (ps.modify i f) = bankrolls ps + c := by
  induction ps generalizing i with
  | nil => exact absurd hi (Nat.not_lt_zero _)
  | cons p t ih =>
    cases i with
    | zero => rw [List.modify_zero_cons, bankrolls_cons, bankrolls_cons, hf]; exact Int.add_right_comm ..
    | succ k =>
      rw [List.modify_succ_cons, bankrolls_cons, bankrolls_cons, ih k (Nat.lt_of_succ_lt_succ hi)]
      exact (Int.add_assoc ..).symm

theorem bankrolls_filter (ps : List Player) (q : Player → Bool) :
    bankrolls (ps.filter q) + bankrolls (ps.filter (fun p => !(q p))) = bankrolls ps := by
  induction ps with
  | nil => rfl
  | cons p t ih =>
    rw [List.filter_cons, List.filter_cons, bankrolls_cons, ← ih]
    -- with `q p` known both `if`s compute
    cases q p
    · exact Int.add_left_comm ..
    · exact Int.add_assoc ..

def Ledger (s : State) : Prop := total s = s.broughtIn - s.takenOut

def Same (a b : State) : Prop := total a = total b ∧ a.broughtIn = b.broughtIn ∧ a.takenOut = b.takenOut

theorem Same.ledger {a b : State} (h : Same a b) (hl : Ledger b) : Ledger a := by
  unfold Ledger at hl ⊢; rw [h.1, h.2.1, h.2.2]; exact hl

/-- the ledger still balances when `c` more chips stand on the table and are booked as brought in, `d` fewer and booked as
taken out -/
theorem Ledger.book {s t : State} (h : Ledger s) (c d : Int) (hp : total t = total s + c - d)
    (hi : t.broughtIn = s.broughtIn + c) (ho : t.takenOut = s.takenOut + d) : Ledger t := by
  unfold Ledger at h ⊢; rw [hp, hi, ho, h]; omega

/-- an arrival appends (nobody, when it fails) and books what the newcomers bring -/
theorem batchAdd_appends (s : State) (js : List Join) (ch : List Int) :
    ∃ extra, (batchAdd s js ch).1.players = s.players ++ extra ∧ (batchAdd s js ch).1.gidx = s.gidx ∧
      (batchAdd s js ch).1.broughtIn = s.broughtIn + bankrolls extra ∧ (batchAdd s js ch).1.takenOut = s.takenOut := by
  rcases batchAdd_cases s js ch with ⟨_, _, h, _⟩ | ⟨sm', ps, m, hap, h⟩ <;> rw [h]
  · exact ⟨[], (List.append_nil _).symm, rfl, (Int.add_zero _).symm, rfl⟩
  · cases appendPlayers_players hap
    refine ⟨_, rfl, rfl, ?_, rfl⟩
    show _ + _ = _ + ((js.map _).map _).sum
    rw [List.map_map]; rfl

theorem ledger_batchAdd (s : State) (js : List Join) (ch : List Int) (h : Ledger s) : Ledger (batchAdd s js ch).1 := by
  obtain ⟨extra, hp, _, hi, ho⟩ := batchAdd_appends s js ch
  exact h.book (bankrolls extra) 0 (by rw [total, hp, bankrolls_append]; exact (Int.sub_zero _).symm) hi
    (ho.trans (Int.add_zero _).symm)

theorem ledger_batchRemove (s : State) (ids : List Nat) (h : Ledger s) : Ledger (batchRemove s ids).1 := by
  rcases batchRemove_cases s ids with ⟨_, heq⟩ | ⟨heq, _⟩ | ⟨_, _, _, _, _, heq⟩ <;> rw [heq]
  · exact h
  · exact h
  · refine h.book 0 (bankrolls (s.players.filter (fun p => ids.contains p.id))) ?_ (Int.add_zero _).symm rfl
    rw [total, total, ← bankrolls_filter s.players (fun p => ids.contains p.id), Int.add_zero]
    exact (Int.sub_eq_iff_eq_add'.mpr rfl).symm

theorem ledger_payIn {s : State} {id i : Nat} (h : Ledger s) (hi : findPlayerIdx s id = some i) (c : Int)
    (r : SM.State × SM.Res) : Ledger (payIn s i c r).1 := by
  obtain ⟨_, _, heq⟩ := payIn_eq s i c r
  rw [heq]
  refine h.book c 0 ?_ rfl (Int.add_zero _).symm
  show bankrolls (modAt s.players i _) = _
  rw [modAt, bankrolls_modify _ _ _ c (fun _ => rfl) (findPlayerIdx_lt s id i hi)]
  exact (Int.sub_zero _).symm

/-- the backend's results in an event list are zero-sum (contract `ResultConserves`, monitored on every real result) -/
def ResultsConserve : List Event → Prop
  | [] => True
  | .settle r :: t => (r.map (·.2)).sum = 0 ∧ ResultsConserve t
  | _ :: t => ResultsConserve t

/-- what the result credits to player index `k` through the hand's list -/
def credit (gidx : List Int) (res : List (Nat × Int)) (k : Nat) : Int :=
  ((res.filter (fun e => gidx[e.1]? == some (k : Int))).map (·.2)).sum

def bankAt (ps : List Player) (k : Nat) : Int := match ps[k]? with | some p => p.bankroll | none => 0

theorem bankAt_modify (ps : List Player) (i k : Nat) (c : Int) (hi : i < ps.length) :
    bankAt (ps.modify i (fun p => { p with bankroll := p.bankroll + c })) k = bankAt ps k + if i = k then c else 0 := by
  unfold bankAt
  rw [List.getElem?_modify]
  by_cases hik : i = k
  · subst hik; simp [List.getElem?_eq_getElem hi]
  · simp [hik]

theorem credit_concat (gidx : List Int) (v : List (Nat × Int)) (e : Nat × Int) (k : Nat) :
    credit gidx (v ++ [e]) k = credit gidx v k + if gidx[e.1]? = some (k : Int) then e.2 else 0 := by
  unfold credit
  rw [List.filter_append, List.map_append, List.sum_append_int, List.filter_cons]
  simp only [beq_iff_eq]
  split
  · exact congrArg _ (Int.add_zero _)
  · rfl

theorem settle_credits (s : State) (res : List (Nat × Int)) :
    ((settle s res).1 = { s with status := .settled } ∧ (settle s res).2 = .panic) ∨
    ∃ ps nb, (settle s res).1 = { s with status := .settled, players := ps, nextBB := nb } ∧
      ps.length = s.players.length ∧ bankrolls ps = bankrolls s.players + (res.map (·.2)).sum ∧
      ∀ k, bankAt ps k = bankAt s.players k + credit s.gidx res k := by
  refine settle_induct s res (fun v ps => ps.length = s.players.length ∧
    bankrolls ps = bankrolls s.players + (v.map (·.2)).sum ∧ ∀ k, bankAt ps k = bankAt s.players k + credit s.gidx v k)
    ⟨rfl, (Int.add_zero _).symm, fun _ => (Int.add_zero _).symm⟩ ?_
  intro v ps e i hg hlt ⟨hl, hb, hk⟩
  refine ⟨(List.length_modify ..).trans hl, ?_, fun k => ?_⟩
  · rw [modAt, bankrolls_modify _ _ _ e.2 (fun _ => rfl) hlt, hb, List.map_append, List.sum_append_int, Int.add_assoc,
      List.map_singleton, List.sum_singleton]
  · rw [modAt, bankAt_modify _ _ _ _ hlt, hk, credit_concat, hg, Int.add_assoc]
    simp only [Option.some.injEq, Int.natCast_inj]

/-- a hand only moves chips between its players: the total is unchanged when the backend's result is zero-sum -/
theorem ledger_settle (s : State) (res : List (Nat × Int)) (hz : (res.map (·.2)).sum = 0) (h : Ledger s) :
    Ledger (settle s res).1 := by
  rcases settle_credits s res with ⟨heq, _⟩ | ⟨ps, nb, heq, _, hb, _⟩ <;> rw [heq]
  · exact h
  · refine Same.ledger (b := s) ⟨?_, rfl, rfl⟩ h
    show bankrolls ps = bankrolls s.players
    rw [hb, hz]; exact Int.add_zero _

theorem noPay_same (s : State) (e : Event) (h : Calm s e) (hn : NoPay e) : Same (step s e) s :=
  have k := calm_keeps s e h
  ⟨congrArg List.sum (k.players (·.bankroll) (.inl hn) (fun _ _ => rfl) (.inr fun _ _ => rfl)), k.broughtIn hn, k.takenOut⟩

theorem ResultsConserve.cons {e : Event} {t : List Event} (h : ResultsConserve (e :: t)) :
    (∀ r, e = .settle r → (r.map (·.2)).sum = 0) ∧ ResultsConserve t := by
  refine ⟨by rintro r rfl; exact h.1, ?_⟩
  cases e with
  | settle r => exact h.2
  | _ => exact h

/-- an event keeps the ledger balanced, provided the result it settles (if it is a settlement) is zero-sum: arrivals and
departures book what comes and goes, payments what is paid, a settlement only moves chips, nothing else touches a chip -/
theorem ledger_step (s : State) (e : Event) (h : Ledger s) (hz : ∀ r, e = .settle r → (r.map (·.2)).sum = 0) :
    Ledger (step s e) :=
  step_induct' ledger_batchAdd ledger_batchRemove h fun hc => by
    by_cases hn : NoPay e
    · exact (noPay_same s e hc hn).ledger h
    cases e with
    | reserve j ch =>
      show Ledger (reserve s j ch).1
      rcases reserve_cases s j ch with ⟨hf, _⟩ | ⟨hf, _⟩ | ⟨i, hi, h'⟩
      · exact absurd hf hc
      · exact absurd hf hc
      · rw [h']; exact ledger_payIn h hi _ _
    | redeem id c =>
      show Ledger (redeem s id c).1
      rcases redeem_cases s id c with ⟨_, h'⟩ | ⟨i, _, hi, h'⟩ <;> rw [h']
      · exact h
      · exact ledger_payIn h hi _ _
    | settle r => exact ledger_settle s r (hz r rfl) h
    | _ => exact absurd trivial hn

theorem ledger_run (s : State) (evs : List Event) (h : Ledger s) (hz : ResultsConserve evs) : Ledger (run s evs) :=
  run_induct (fun _ _ _ => ResultsConserve.cons) ledger_step s evs h hz

theorem ledger_createJoin (s : State) (js : List Join) (ch : List Int) (h : Ledger s) : Ledger (createJoin s js ch).1 :=
  createJoin_induct (fun _ _ h => h) s js ch (ledger_step s (.update js [] ch) h nofun)

theorem ledger_create (cfg : Meta) (b : Blind) : Ledger (create cfg b) := by
  unfold Ledger; rfl
end TB
