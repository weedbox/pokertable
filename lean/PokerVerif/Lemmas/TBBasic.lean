import PokerVerif.TB
/-!
# The table engine's operations by outcome

For each operation with several ways to end, one lemma lists the outcomes, each with its guards and the equation for what it
returns (`*_cases`); the other modules take an operation apart through these.  Left to where they are used: the seat manager's
half of `batchAdd` (`batchAdd_legal_cases`, TBAgree) and, but for `nextMove_standby` and `openGuard_held`, evaluating an
operation along the one path that given hypotheses fix.
-/
namespace TB

theorem foldl_none {α β : Type} (f : Option β → α → Option β) (hf : ∀ a, f none a = none) (l : List α) :
    l.foldl f none = none := by
  induction l with
  | nil => rfl
  | cons a t ih => rw [List.foldl_cons, hf, ih]

theorem foldl_some_inv {α β : Type} {f : Option β → α → Option β} (hnone : ∀ a, f none a = none) (P : List α → β → Prop)
    (hstep : ∀ v b a b', f (some b) a = some b' → P v b → P (v ++ [a]) b') {l v : List α} {b b' : β}
    (h : l.foldl f (some b) = some b') (hb : P v b) : P (v ++ l) b' := by
  induction l generalizing v b with
  | nil => rw [List.append_nil]; exact Option.some.inj h ▸ hb
  | cons a t ih =>
    rw [List.foldl_cons] at h
    cases hf : f (some b) a with
    | none => rw [hf, foldl_none f hnone] at h; cases h
    | some c => rw [hf] at h; rw [List.append_cons]; exact ih h (hstep v b a c hf hb)

theorem mapM_option {α β : Type} (f : α → Option β) (l : List α) :
    (l.mapM f = none → ∃ x ∈ l, f x = none) ∧ ∀ r, l.mapM f = some r → r = l.filterMap f := by
  induction l with
  | nil => exact ⟨nofun, fun r h => (Option.some.inj h).symm⟩
  | cons a t ih =>
    rw [List.mapM_cons]
    cases ha : f a with
    | none => exact ⟨fun _ => ⟨a, List.mem_cons_self, ha⟩, nofun⟩
    | some b =>
      rw [List.filterMap_cons_some ha]
      cases ht : t.mapM f with
      | none =>
        obtain ⟨x, hx, hfx⟩ := ih.1 ht
        exact ⟨fun _ => ⟨x, List.mem_cons_of_mem _ hx, hfx⟩, nofun⟩
      | some r' => exact ⟨nofun, fun r h => ih.2 r' ht ▸ (Option.some.inj h).symm⟩

/-- `FindPlayerIdx` is the library's `findIdx?` (the loop carries the index it has reached) -/
theorem findIdxAux_eq (id : Nat) (ps : List Player) (n : Nat) :
    findIdxAux id ps n = (ps.findIdx? (·.id == id)).map (· + n) := by
  induction ps generalizing n with
  | nil => rfl
  | cons p t ih =>
    rw [findIdxAux, List.findIdx?_cons, ih]
    split
    · simp
    · simp [Option.map_map, Function.comp_def, Nat.add_comm, Nat.add_left_comm]

theorem findPlayerIdx_eq (s : State) (id : Nat) : findPlayerIdx s id = s.players.findIdx? (·.id == id) := by
  rw [findPlayerIdx, findIdxAux_eq]; simp

theorem findIdxAux_some (id : Nat) (ps : List Player) (n k : Nat) (h : findIdxAux id ps n = some k) :
    n ≤ k ∧ ∃ p, ps[k - n]? = some p ∧ p.id = id := by
  rw [findIdxAux_eq, Option.map_eq_some_iff] at h
  obtain ⟨i, hi, rfl⟩ := h
  obtain ⟨hlt, hp, _⟩ := List.findIdx?_eq_some_iff_getElem.mp hi
  exact ⟨Nat.le_add_left _ _, ps[i], by simp [hlt], by simpa using hp⟩

theorem findIdxAux_lt (id : Nat) (ps : List Player) (k i : Nat) (h : findIdxAux id ps k = some i) :
    k ≤ i ∧ i < k + ps.length := by
  obtain ⟨hk, p, hp, _⟩ := findIdxAux_some id ps k i h
  exact ⟨hk, Nat.add_comm .. ▸ (Nat.sub_lt_iff_lt_add hk).mp (List.getElem?_eq_some_iff.mp hp).1⟩

theorem findPlayerIdx_lt (s : State) (id i : Nat) (h : findPlayerIdx s id = some i) : i < s.players.length := by
  have := (findIdxAux_lt id s.players 0 i h).2; rwa [Nat.zero_add] at this

theorem findIdxAux_none (id : Nat) (ps : List Player) (n : Nat) (h : findIdxAux id ps n = none) :
    ∀ p ∈ ps, p.id ≠ id := by
  rw [findIdxAux_eq, Option.map_eq_none_iff, List.findIdx?_eq_none_iff] at h
  exact fun p hp hid => Bool.eq_false_iff.mp (h p hp) (beq_iff_eq.mpr hid)

theorem openGuard_go (s : State) :
    openGuard s = .go ↔ 1 < s.gate.length ∧ s.released = false ∧ s.status ≠ .closed ∧ s.hasGame = false ∧
      s.blind.isSet = true ∧ s.blind.isBreaking = false := by
  fun_cases openGuard s
  case case1 h => exact ⟨nofun, fun g => absurd g.1 (Nat.not_lt.mpr h)⟩
  case case2 h => exact ⟨nofun, fun g => by simp [g.2.1, g.2.2.1] at h⟩
  case case3 h => exact ⟨nofun, fun g => by simp [g.2.2.2.1] at h⟩
  case case4 h => exact ⟨nofun, fun g => by simp [g.2.2.2.2.1] at h⟩
  case case5 h => exact ⟨nofun, fun g => by simp [g.2.2.2.2.2] at h⟩
  case case6 h1 h2 h3 h4 h5 => simp at h2 h3 h4 h5; exact ⟨fun _ => ⟨by omega, h2.1, h2.2, h3, h4, h5⟩, fun _ => rfl⟩

/-- a hand still held is found before the blinds are looked at: no retry -/
theorem openGuard_held (s : State) (h : s.hasGame = true) : openGuard s = .nothing := by
  fun_cases openGuard s
  case case1 | case2 | case3 => rfl
  all_goals exact absurd h ‹_›

theorem startHand_cases (s2 : State) (ok : Bool) :
    ((startHand s2 ok).1 = s2 ∧ ((startHand s2 ok).2 = .panic ∨ (startHand s2 ok).2 = .startFailed)) ∨
    startHand s2 ok = ({ s2 with status := .playing, gameBlind := some s2.blind, hasGame := true }, .opened) := by
  fun_cases startHand s2 ok
  · exact .inl ⟨rfl, .inl rfl⟩
  · exact .inl ⟨rfl, .inr rfl⟩
  · exact .inr rfl

/-- the first stage of `openGame`: the dealt-in flags are read off the seat manager (`none`: it does not know a listed player) -/
abbrev dealIn (sm : SM.State) (ps : List Player) : Option (List Player) :=
  ps.mapM (fun p => (SM.isActive sm p.id).map (fun a => { p with participated := a }))

theorem openTable_cases (s : State) (sm : SM.State) :
    ((openTable s sm).1 = { s with sm := sm } ∧
      (((openTable s sm).2 = .refused ∧
          dealIn sm s.players = none) ∨
        (openTable s sm).2 = .panic)) ∨
    ∃ ps gi ps2,
      dealIn sm s.players = some ps ∧
      gameIndexes { s with sm := sm } ps = some gi ∧ assignPositions sm ps = some ps2 ∧
      openTable s sm = (openedState s sm ps2 gi, .opened) := by
  fun_cases openTable s sm
  case case1 hm => exact .inl ⟨rfl, .inl ⟨rfl, hm⟩⟩
  case case4 => exact .inr ⟨_, _, _, ‹_›, ‹_›, ‹_›, rfl⟩
  all_goals exact .inl ⟨rfl, .inr rfl⟩

theorem openTable_opened_eq (s : State) (sm : SM.State) (h : (openTable s sm).2 = .opened) :
    ∃ ps gi ps2,
      dealIn sm s.players = some ps ∧
      gameIndexes { s with sm := sm } ps = some gi ∧ assignPositions sm ps = some ps2 ∧
      openTable s sm = (openedState s sm ps2 gi, .opened) := by
  rcases openTable_cases s sm with ⟨_, ⟨h', _⟩ | h'⟩ | h'
  case inr => exact h'
  all_goals rw [h'] at h; cases h

/-- every way `openGame` + `startGame` can end once the guards have passed (`r`: what `InitPositions` / `RotatePositions`
answered); everything else said about `openCore` follows from this -/
theorem openCore_cases (s : State) (ch : Option Int) (ok : Bool) :
    let r := if !s.sm.isInit then SM.init s.sm ch else SM.rotate s.sm
    ((openCore s ch ok).1 = { s with sm := r.1 } ∧
      (((openCore s ch ok).2 = .refused ∧ (r.2 = .ok →
          dealIn r.1 s.players = none)) ∨
        (openCore s ch ok).2 = .panic)) ∨
    ∃ ps gi ps2, r.2 = .ok ∧
      dealIn r.1 s.players = some ps ∧
      gameIndexes { s with sm := r.1 } ps = some gi ∧ assignPositions r.1 ps = some ps2 ∧
      (((openCore s ch ok).1 = openedState s r.1 ps2 gi ∧
          ((openCore s ch ok).2 = .panic ∨ (openCore s ch ok).2 = .startFailed)) ∨
        openCore s ch ok =
          ({ openedState s r.1 ps2 gi with status := .playing, gameBlind := some s.blind, hasGame := true }, .opened)) := by
  intro r
  fun_cases openCore s ch ok
  case case1 r e he => exact .inl ⟨rfl, .inl ⟨rfl, fun h => nomatch he.symm.trans h⟩⟩
  case case2 r hok t ht =>
    obtain ⟨ps, gi, ps2, hm, hgi, hap, h⟩ := openTable_opened_eq s r.1 ht
    refine .inr ⟨ps, gi, ps2, hok, hm, hgi, hap, ?_⟩
    rw [show t = _ from h]
    exact startHand_cases (openedState s r.1 ps2 gi) ok
  case case3 r hok t hne =>
    rcases openTable_cases s r.1 with ⟨h1, h2⟩ | ⟨_, _, _, _, _, _, h⟩
    · exact .inl ⟨h1, h2.imp_left fun h => ⟨h.1, fun _ => h.2⟩⟩
    · exact absurd (congrArg (·.2) h) hne

theorem openCore_opened_eq (s : State) (ch : Option Int) (ok : Bool) (h : (openCore s ch ok).2 = .opened) :
    let r := if !s.sm.isInit then SM.init s.sm ch else SM.rotate s.sm
    ∃ ps gi ps2, r.2 = .ok ∧
      dealIn r.1 s.players = some ps ∧
      gameIndexes { s with sm := r.1 } ps = some gi ∧ assignPositions r.1 ps = some ps2 ∧
      openCore s ch ok =
        ({ openedState s r.1 ps2 gi with status := .playing, gameBlind := some s.blind, hasGame := true }, .opened) := by
  rcases openCore_cases s ch ok with ⟨_, ⟨h', _⟩ | h'⟩ | ⟨ps, gi, ps2, h1, h2, h3, h4, ⟨_, h' | h'⟩ | h'⟩
  case inr.inr => exact ⟨ps, gi, ps2, h1, h2, h3, h4, h'⟩
  all_goals rw [h'] at h; cases h

theorem gateFire_cases (s : State) (ch : Option Int) (ok : Bool) :
    (∃ o, gateFire s ch ok = (gateReady s, o) ∧ (o = .nothing ∨ o = .refused)) ∨
    (openGuard (gateReady s) = .go ∧ gateFire s ch ok = openCore (gateReady s) ch ok) := by
  unfold gateFire
  cases openGuard (gateReady s) with
  | nothing => exact .inl ⟨_, rfl, .inl rfl⟩
  | refused => exact .inl ⟨_, rfl, .inr rfl⟩
  | go => exact .inr ⟨rfl, rfl⟩

theorem gateFire_opened (s : State) (ch : Option Int) (ok : Bool) (h : (gateFire s ch ok).2 = .opened) :
    openGuard (gateReady s) = .go ∧ (gateFire s ch ok) = openCore (gateReady s) ch ok := by
  rcases gateFire_cases s ch ok with ⟨o, h', ho⟩ | h'
  · rw [h'] at h; rcases ho with rfl | rfl <;> cases h
  · exact h'

theorem nextMove_standby (s2 : State) (hst : s2.status = .standby) (hr : s2.released = false) :
    (shouldPause s2 = true → nextMove s2 false = ({ s2 with status := .pausing }, .paused)) ∧
    (shouldPause s2 = false → nextMove s2 false = (setup s2 (s2.gameCount + 1) (gateParticipants s2), .setUp)) := by
  constructor
  · intro hp
    unfold nextMove
    simp [hst, hr, hp]
  · intro hp
    have hao : shouldAutoOpen s2 = true := by
      unfold shouldPause at hp
      unfold shouldAutoOpen
      simp at hp
      simp [hst]
      omega
    unfold nextMove
    simp [hst, hr, hp, hao]

theorem continueGame_cases (s : State) (e : Bool) :
    (refreshPlayers s.sm s.players = none ∧ continueGame s e = (resetHand s, .failed)) ∨
    (∃ sm ps, refreshPlayers s.sm s.players = some (sm, ps) ∧
      continueGame s e = nextMove { resetHand s with sm := sm, players := ps } e) := by
  fun_cases continueGame s e
  · exact .inl ⟨‹_›, rfl⟩
  · exact .inr ⟨_, _, ‹_›, rfl⟩

/-- the crediting loop of `settleGame` carries `P` (a relation between the result entries handed out so far and the player
list) to the end, unless it panics on an entry that the hand's list does not lead to a player; `nb` hides that
`refreshNextBBOrderPlayerIDs` may still panic -/
theorem settle_induct (s : State) (res : List (Nat × Int)) (P : List (Nat × Int) → List Player → Prop)
    (h0 : P [] s.players)
    (hstep : ∀ v ps e (i : Nat), s.gidx[e.1]? = some (i : Int) → i < ps.length → P v ps →
      P (v ++ [e]) (modAt ps i fun p => { p with bankroll := p.bankroll + e.2 })) :
    ((settle s res).1 = { s with status := .settled } ∧ (settle s res).2 = .panic) ∨
    ∃ ps nb, (settle s res).1 = { s with status := .settled, players := ps, nextBB := nb } ∧ P res ps := by
  unfold settle
  simp only
  split
  · exact .inl ⟨rfl, rfl⟩
  · rename_i ps hfold
    have hp : P res ps := by
      refine foldl_some_inv (v := []) (fun _ => rfl) P ?_ hfold h0
      intro v b e b' h hb
      simp only at h
      split at h
      · cases h
      next pi hg =>
        split at h
        next hc => cases h; exact hstep v b e pi.toNat (by rw [Int.toNat_of_nonneg hc.1]; exact hg) hc.2 hb
        · cases h
    split <;> exact .inr ⟨_, _, rfl, hp⟩

theorem retryOpen_cases (s : State) (ch : Option Int) (ok : Bool) :
    (∃ o, retryOpen s ch ok = (s, o) ∧ (o = .nothing ∨ o = .refused)) ∨
    (s.released = false ∧ s.status ≠ .closed ∧ inHandStatus s.status = false ∧ s.blind.isSet = true ∧
      s.blind.isBreaking = false ∧ retryOpen s ch ok = openCore s ch ok) := by
  fun_cases retryOpen s ch ok
  case case3 => exact .inl ⟨_, rfl, .inr rfl⟩
  case case5 h0 h1 h2 h3 =>
    simp at h0 h1 h2 h3
    exact .inr ⟨h0.1, h0.2, h1, h2, h3, rfl⟩
  all_goals exact .inl ⟨_, rfl, .inl rfl⟩

theorem batchRemove_cases (s : State) (ids : List Nat) :
    (∃ e, batchRemove s ids = (s, .err (.sm e))) ∨
    (batchRemove s ids = ({ s with sm := (SM.remove s.sm ids).1 }, .panic) ∧
      (rebuildSeatMap s.cfg.maxSeat (s.players.filter (fun p => !(ids.contains p.id))) = none ∨
        s.gidx.mapM (fun gi => if 0 ≤ gi then (s.players[gi.toNat]?).map (·.id) else none) = none)) ∨
    ∃ m oids, (SM.remove s.sm ids).2 = .ok ∧
      rebuildSeatMap s.cfg.maxSeat (s.players.filter (fun p => !(ids.contains p.id))) = some m ∧
      s.gidx.mapM (fun gi => if 0 ≤ gi then (s.players[gi.toNat]?).map (·.id) else none) = some oids ∧
      batchRemove s ids =
        ({ s with sm := (SM.remove s.sm ids).1, players := s.players.filter (fun p => !(ids.contains p.id)), seatMap := m,
                  gidx := oids.filterMap (fun id =>
                    (findIdxAux id (s.players.filter (fun p => !(ids.contains p.id))) 0).map (fun k => (k : Int))),
                  takenOut := s.takenOut + ((s.players.filter (fun p => ids.contains p.id)).map (·.bankroll)).sum }, .ok) := by
  fun_cases batchRemove s ids
  case case1 e _ => exact .inl ⟨e, rfl⟩
  case case2 hm => exact .inr (.inl ⟨rfl, .inl hm⟩)
  case case3 ho => exact .inr (.inl ⟨rfl, .inr ho⟩)
  case case4 => exact .inr (.inr ⟨_, _, ‹_›, ‹_›, ‹_›, rfl⟩)

/-- with pairwise different ids nobody overrides anybody: the Go map is the fixed-seat entries of the batch -/
theorem fixedMap_eq (js : List Join) (hd : js.Pairwise (fun a c => a.id ≠ c.id)) :
    fixedMap js = (js.filter (fun j => j.seat != -1)).map (fun j => (j.id, j.seat)) := by
  induction js with
  | nil => rfl
  | cons j t ih =>
    obtain ⟨hj, ht⟩ := List.pairwise_cons.mp hd
    rw [fixedMap, ih ht, List.filter_cons, bne]
    cases j.seat == -1
    · rw [if_neg nofun, Bool.not_false, if_pos rfl, List.map_cons, if_neg]
      rw [Bool.not_eq_true, List.any_eq_false]
      intro e he
      obtain ⟨k, hk, rfl⟩ := List.mem_map.mp he
      exact fun h => hj k (List.mem_filter.mp hk).1 (beq_iff_eq.mp h).symm
    · rw [if_pos rfl, Bool.not_true, if_neg nofun]

theorem batch_ids (js : List Join) (hd : js.Pairwise (fun a c => a.id ≠ c.id)) (x : Nat) :
    x ∈ (fixedMap js).map (·.1) ++ randomIds js ↔ x ∈ js.map (·.id) := by
  rw [fixedMap_eq js hd, randomIds, List.map_map]
  simp only [List.mem_append, List.mem_map, List.mem_filter, Function.comp_apply]
  constructor
  · rintro (⟨j, ⟨hj, _⟩, rfl⟩ | ⟨j, ⟨hj, _⟩, rfl⟩) <;> exact ⟨j, hj, rfl⟩
  · rintro ⟨j, hj, rfl⟩
    by_cases h : j.seat = -1
    · exact .inr ⟨j, ⟨hj, by simp [h]⟩, rfl⟩
    · exact .inl ⟨j, ⟨hj, by simpa using h⟩, rfl⟩

theorem batchAdd_cases (s : State) (js : List Join) (ch : List Int) :
    (∃ sm' e, batchAdd s js ch = ({ s with sm := sm' }, e) ∧ e ≠ .ok) ∨
    ∃ sm' ps m, appendPlayers sm' js s.players s.seatMap = some (ps, m) ∧
      batchAdd s js ch =
        ({ s with sm := sm', players := ps, seatMap := m,
                  autoRg := ((List.range ps.length).zip ps).filterMap (fun e => if e.2.isIn then none else some (e.1, false)),
                  autoDone := false, broughtIn := s.broughtIn + (js.map (·.chips)).sum }, .ok) := by
  fun_cases batchAdd s js ch
  case case5 => exact .inr ⟨_, _, _, ‹_›, rfl⟩
  case case1 | case2 => exact .inl ⟨s.sm, _, rfl, nofun⟩
  all_goals exact .inl ⟨_, _, rfl, nofun⟩

/-- the common end of `PlayerReserve` (of a listed player) and `PlayerRedeemChips`: the chips are credited to the player at
index `i` and booked as brought in *before* the seat manager is told whether he has chips; `r` is its answer, and a refusal
leaves the payment made -/
def payIn (s : State) (i : Nat) (c : Int) (r : SM.State × SM.Res) : State × Res :=
  let s1 := { s with players := modAt s.players i (fun p => { p with bankroll := p.bankroll + c }),
                     broughtIn := s.broughtIn + c }
  match r.2 with
  | .err e => (s1, .err (.sm e))
  | .ok => ({ s1 with sm := r.1 }, .ok)

theorem payIn_eq (s : State) (i : Nat) (c : Int) (r : SM.State × SM.Res) :
    ∃ sm, (sm = s.sm ∨ sm = r.1) ∧
      (payIn s i c r).1 = { s with players := modAt s.players i (fun p => { p with bankroll := p.bankroll + c }),
                                   broughtIn := s.broughtIn + c, sm := sm } := by
  unfold payIn
  split
  · exact ⟨_, .inl rfl, rfl⟩
  · exact ⟨_, .inr rfl, rfl⟩

theorem reserve_cases (s : State) (j : Join) (ch : List Int) :
    (findPlayerIdx s j.id = none ∧ s.players.length = s.cfg.maxSeat ∧ reserve s j ch = (s, .err .noEmptySeats)) ∨
    (findPlayerIdx s j.id = none ∧ s.players.length ≠ s.cfg.maxSeat ∧ reserve s j ch = batchAdd s [j] ch) ∨
    ∃ i, findPlayerIdx s j.id = some i ∧ reserve s j ch = payIn s i j.chips (SM.setChips s.sm j.id true) := by
  unfold reserve
  cases findPlayerIdx s j.id with
  | none =>
    by_cases hl : s.players.length = s.cfg.maxSeat
    · exact .inl ⟨rfl, hl, if_pos (beq_iff_eq.mpr hl)⟩
    · exact .inr (.inl ⟨rfl, hl, if_neg (mt beq_iff_eq.mp hl)⟩)
  | some i => exact .inr (.inr ⟨i, rfl, rfl⟩)

theorem redeem_cases (s : State) (id : Nat) (c : Int) :
    (findPlayerIdx s id = none ∧ redeem s id c = (s, .err .playerNotFound)) ∨
    ∃ i b, findPlayerIdx s id = some i ∧ redeem s id c = payIn s i c (SM.setChips s.sm id b) := by
  unfold redeem
  cases findPlayerIdx s id with
  | none => exact .inl ⟨rfl, rfl⟩
  | some i => exact .inr ⟨i, _, rfl, rfl⟩

/-- the listed player is marked seated-in *before* the seat manager is asked, whatever that answers -/
theorem joinCore_cases (s : State) (id : Nat) :
    (∃ r, joinCore s id = (s, r, none)) ∨
    ∃ i p, findPlayerIdx s id = some i ∧ s.players[i]? = some p ∧
      ((∃ e, (SM.join s.sm [id]).2 = .err e ∧
          joinCore s id = ({ s with players := modAt s.players i fun p => { p with isIn := true } }, .err (.sm e), some i)) ∨
        ((SM.join s.sm [id]).2 = .ok ∧
          joinCore s id =
            ({ s with players := modAt s.players i fun p => { p with isIn := true }, sm := (SM.join s.sm [id]).1 }, .ok,
              some i))) := by
  fun_cases joinCore s id
  case case5 i hi p hp _ _ _ _ e he => exact .inr ⟨i, p, hi, hp, .inl ⟨e, he, rfl⟩⟩
  case case6 i hi p hp _ _ _ _ he => exact .inr ⟨i, p, hi, hp, .inr ⟨he, rfl⟩⟩
  all_goals exact .inl ⟨_, rfl⟩

theorem update_cases (s : State) (js : List Join) (lv : List Nat) (ch : List Int) :
    (update s js lv ch).1 = (if lv.isEmpty then s else (batchRemove s lv).1) ∨
    (update s js lv ch).1 = (batchAdd (if lv.isEmpty then s else (batchRemove s lv).1) js ch).1 := by
  have h1 : (if lv.isEmpty then (s, Res.ok) else batchRemove s lv).1 = if lv.isEmpty then s else (batchRemove s lv).1 :=
    apply_ite Prod.fst _ _ _
  fun_cases update s js lv ch
  · exact .inl h1
  · exact .inr (congrArg (fun t => (batchAdd t js ch).1) h1)
  · exact .inl h1

end TB
