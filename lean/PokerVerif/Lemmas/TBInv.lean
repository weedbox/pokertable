import PokerVerif.Lemmas.TBFlags
import PokerVerif.Lemmas.TBGidx
/-!
# The invariant of the table along every history

`Inv4 s`: the four clauses that hold in every state reachable from `CreateTable` — the table's own seat bookkeeping
(`Booked`), seat manager and table naming the same occupants (`Agree`), the hand's list pointing into the player list
(`GidxOK`), both sides showing the same seated-in flags (`FlagInv`).  They are shown together, by one `step_induct`, because
they need one another: an arrival cannot panic where the books agree, a departure cannot where the hand's list is valid, a
sit-in cannot be refused where the books agree.  The only hypothesis is that a recorded draw of seats is one the seat
manager could have made (`DrawLegal`).

`Inv`, the first two clauses alone, is kept under a hypothesis that also assumes departures not to have panicked
(`EventLegal`; `step_inv`, `run_inv`) — what can be said without `GidxOK`.
-/
namespace TB

structure Inv4 (s : State) : Prop where
  booked : Booked s
  agree : Agree s
  gidx : GidxOK s
  flags : FlagInv s

theorem Inv4.inv {s : State} (h : Inv4 s) : Inv s := ⟨h.booked, h.agree⟩

theorem DrawLegal.cond {s : State} {e : Event} (h : DrawLegal s e) : EventCond BatchLegal (fun _ _ => True) s e := by
  cases e with
  | leave ids => trivial
  | update js lv ch => exact ⟨fun _ => trivial, h⟩
  | _ => exact h

theorem step_inv4 (s : State) (e : Event) (h : Inv4 s) (hd : DrawLegal s e) : Inv4 (step s e) := by
  refine step_induct (P := Inv4)
    (fun s js ch h hl =>
      have hi := batchAdd_inv s js ch h.inv hl
      ⟨hi.1, hi.2, batchAdd_gidx s js ch h.gidx,
        batchAdd_flags s js ch h.booked h.agree h.flags hl⟩)
    (fun s ids h _ =>
      ⟨batchRemove_booked s ids h.booked,
        batchRemove_agree s ids h.booked h.agree (batchRemove_no_panic s ids h.booked h.gidx),
        batchRemove_gidx s ids h.gidx, batchRemove_flags s ids h.flags⟩)
    h hd.cond fun hc => ⟨(calm_inv s e hc h.inv).1, (calm_inv s e hc h.inv).2, calm_gidx s e hc h.gidx, ?_⟩
  -- the flags: a calm step that is no sit-in changes none; a sit-in writes both
  by_cases hn : NoSitIn e
  · exact FlagInv.of_quiet (calm_quietF s e hc hn) h.flags
  cases e with
  | join id => exact (sitIn_flags.1 s id ⟨h.inv, h.flags⟩).2
  | autojoin => exact (sitIn_flags.2 s ⟨h.inv, h.flags⟩).2
  | _ => exact absurd trivial hn

theorem run_inv4 (s : State) (evs : List Event) (h : Inv4 s) (hd : DrawsLegal s evs) : Inv4 (run s evs) :=
  run_induct (fun _ _ _ h => h) step_inv4 s evs h hd

theorem create_inv4 (cfg : Meta) (b : Blind) : Inv4 (create cfg b) :=
  ⟨create_booked cfg b, create_agree cfg b, create_gidx cfg b, create_flags cfg b⟩

theorem Inv4.status {s : State} (h : Inv4 s) (st : Status) : Inv4 { s with status := st } :=
  ⟨h.booked, ⟨h.agree.maxSeat, h.agree.seats, h.agree.ids⟩, h.gidx, h.flags⟩

/-- `CreateTable` given players: the batch join is an `update` event without departures on the fresh table -/
theorem createWith_inv4 (cfg : Meta) (b : Blind) (js : List Join) (ch : List Int)
    (hd : DrawLegal (create cfg b) (.update js [] ch)) : Inv4 (createWith cfg b js ch).1 :=
  createJoin_induct (fun _ st h => h.status st) _ js ch (step_inv4 _ _ (create_inv4 cfg b) hd)

/-- what the model needs of a recorded event to speak for the code: the recorded random seats are a draw the seat manager
could have made (`BatchLegal`, the only recorded randomness), and a departure did not end in a Go panic (`Res.panic`:
`calcLeavePlayers` indexing the player list with a hand-list entry that is out of range; the harness reports crashes as
`CRASH.*`) -/
def EventLegal (s : State) : Event → Prop
  | .reserve j ch => findPlayerIdx s j.id = none → BatchLegal s [j] ch
  | .leave ids => (batchRemove s ids).2 ≠ .panic
  | .update js lv ch =>
    (lv.isEmpty = false → (batchRemove s lv).2 ≠ .panic) ∧
    BatchLegal (if lv.isEmpty then s else (batchRemove s lv).1) js ch
  | _ => True

instance (s : State) (e : Event) : Decidable (EventLegal s e) := by
  cases e <;> (unfold EventLegal; exact inferInstance)

def Legal : State → List Event → Prop
  | _, [] => True
  | s, e :: t => EventLegal s e ∧ Legal (step s e) t

theorem step_inv (s : State) (e : Event) (h : Inv s) (hl : EventLegal s e) : Inv (step s e) :=
  step_induct batchAdd_inv batchRemove_inv h (by cases e <;> exact hl) fun hc => calm_inv s e hc h

theorem run_inv (s : State) (evs : List Event) (h : Inv s) (hl : Legal s evs) : Inv (run s evs) :=
  run_induct (fun _ _ _ h => h) step_inv s evs h hl

end TB
