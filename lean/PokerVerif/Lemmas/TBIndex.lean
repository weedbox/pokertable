import PokerVerif.Lemmas.TBBasic
import PokerVerif.TBSpec
/-!
# The hand's player list (`calcGamePlayerIndexes`): every dealt-in player once, clockwise

`collectFrom` walks all seats once, clockwise from the start seat, and collects the player index found on each seat
whose player is dealt in.  Under the seat-map consistency of the table (`MapWF`: the seat map and the player list
describe the same seating) the result lists exactly the dealt-in players, each once, in the order of the walk.
-/
namespace TB

/-- what the walk takes from one seat -/
def pickAt (m : List Int) (part : Int → Bool) (seat : Int) : Option Int :=
  match seatMapGet m seat with
  | some pi => if part pi then some pi else none
  | none => none

theorem pickAt_eq_some {m : List Int} {part : Int → Bool} {seat pi : Int} :
    pickAt m part seat = some pi ↔ seatMapGet m seat = some pi ∧ part pi = true := by
  fun_cases pickAt m part seat
  case case1 q hg hq => rw [hg]; exact ⟨fun h => ⟨h, Option.some.inj h ▸ hq⟩, (·.1)⟩
  case case2 q hg hq => rw [hg]; exact ⟨nofun, fun h => absurd (Option.some.inj h.1 ▸ h.2) hq⟩
  case case3 hg => rw [hg]; exact ⟨nofun, fun h => nomatch h.1⟩

/-- the walk, spelled out: a `filterMap` over the seats, unless a seat lies outside the seat map -/
theorem collect_fold (m : List Int) (part : Int → Bool) (seats : List Int) (acc l : List Int)
    (h : seats.foldl (collectStep m part) (some acc) = some l) : l = acc ++ seats.filterMap (pickAt m part) := by
  refine foldl_some_inv (v := []) (fun _ => rfl) (fun v l => l = acc ++ v.filterMap (pickAt m part)) ?_ h
    (List.append_nil _).symm
  intro v b seat b' hs hb
  rw [List.filterMap_append, ← List.append_assoc, ← hb, List.filterMap_cons, List.filterMap_nil]
  unfold collectStep at hs
  unfold pickAt
  cases hg : seatMapGet m seat with
  | none => rw [hg] at hs; cases hs
  | some pi =>
    rw [hg] at hs
    dsimp only at hs ⊢
    by_cases hp : part pi = true
    · rw [if_pos hp] at hs ⊢; exact (Option.some.inj hs).symm
    · rw [if_neg hp] at hs ⊢; exact (Option.some.inj hs).symm.trans (List.append_nil _).symm

/-- from a seat that exists Go's truncated `%` is the mathematical one: the model's walk is the specification's -/
theorem walkSeats_eq_cwFrom (n : Nat) (start : Int) (hs : 0 ≤ start) : walkSeats n start = TBSpec.cwFrom n start :=
  List.map_congr_left fun k _ => Int.tmod_eq_emod_of_nonneg (Int.add_nonneg hs (Int.natCast_nonneg k))

theorem cwFrom_nodup (n : Nat) (start : Int) : (TBSpec.cwFrom n start).Nodup := by
  unfold TBSpec.cwFrom
  rw [List.Nodup, List.pairwise_map]
  refine List.pairwise_lt_range.imp_of_mem ?_
  intro a b ha hb hab heq
  rw [List.mem_range] at ha hb
  have := Int.emod_add_cancel_left.mp heq
  rw [Int.emod_eq_of_lt (Int.natCast_nonneg a) (Int.ofNat_lt.mpr ha),
    Int.emod_eq_of_lt (Int.natCast_nonneg b) (Int.ofNat_lt.mpr hb)] at this
  exact Nat.ne_of_lt hab (Int.ofNat_inj.mp this)

theorem mem_cwFrom (n : Nat) (start t : Int) (h0 : 0 ≤ t) (hn : t < n) : t ∈ TBSpec.cwFrom n start := by
  have hpos : (0 : Int) < n := Int.lt_of_le_of_lt h0 hn
  have h1 := Int.emod_nonneg (t - start) (Int.ne_of_gt hpos)
  -- seat `t` is reached after `(t - start) mod n` steps
  refine List.mem_map.mpr ⟨((t - start) % n).toNat,
    List.mem_range.mpr ((Int.toNat_lt h1).mpr (Int.emod_lt_of_pos (t - start) hpos)), ?_⟩
  rw [Int.toNat_of_nonneg h1, Int.add_emod_emod, Int.add_comm, Int.sub_add_cancel, Int.emod_eq_of_lt h0 hn]

theorem cwFrom_in_range (n : Nat) (start : Int) (hn : 0 < n) : ∀ seat ∈ TBSpec.cwFrom n start, 0 ≤ seat ∧ seat < n := by
  intro seat h
  obtain ⟨k, _, rfl⟩ := List.mem_map.mp h
  have hpos : (0 : Int) < n := Int.natCast_pos.mpr hn
  exact ⟨Int.emod_nonneg _ (Int.ne_of_gt hpos), Int.emod_lt_of_pos _ hpos⟩

theorem walk_in_range (n : Nat) (start : Int) (hs : 0 ≤ start) (hn : 0 < n) :
    ∀ seat ∈ walkSeats n start, 0 ≤ seat ∧ seat < n :=
  walkSeats_eq_cwFrom n start hs ▸ cwFrom_in_range n start hn

theorem walk_nodup (n : Nat) (start : Int) (hs : 0 ≤ start) : (walkSeats n start).Nodup :=
  walkSeats_eq_cwFrom n start hs ▸ cwFrom_nodup n start

theorem walk_covers (n : Nat) (start : Int) (hs : 0 ≤ start) (t : Int) (h0 : 0 ≤ t) (hn : t < n) :
    t ∈ walkSeats n start :=
  walkSeats_eq_cwFrom n start hs ▸ mem_cwFrom n start t h0 hn

theorem seatMapGet_isSome (m : List Int) (seat : Int) (h0 : 0 ≤ seat) (hl : seat < m.length) :
    (seatMapGet m seat).isSome = true := by
  unfold seatMapGet
  rw [if_pos ⟨h0, hl⟩, List.getElem?_eq_getElem ((Int.toNat_lt h0).mpr hl)]; rfl

theorem seatMapGet_range (m : List Int) (seat pi : Int) (h : seatMapGet m seat = some pi) : 0 ≤ seat ∧ seat < m.length := by
  unfold seatMapGet at h
  by_cases hc : 0 ≤ seat ∧ seat < m.length
  · exact hc
  · rw [if_neg hc] at h; cases h

/-- the table's seating is consistent: an occupied seat-map entry names a listed player sitting on that seat, and every
listed player's seat names him -/
structure MapWF (m : List Int) (ps : List Player) : Prop where
  entries : ∀ seat pi, seatMapGet m seat = some pi → 0 ≤ pi → ∃ p, ps[pi.toNat]? = some p ∧ p.seat = seat
  players : ∀ (i : Nat) p, ps[i]? = some p → seatMapGet m p.seat = some (i : Int)

theorem partOf_eq_true {ps : List Player} {pi : Int} :
    partOf ps pi = true ↔ 0 ≤ pi ∧ ∃ p, ps[pi.toNat]? = some p ∧ p.participated = true := by
  unfold partOf
  by_cases h0 : 0 ≤ pi
  · cases ps[pi.toNat]? <;> simp [h0]
  · simp [h0]

theorem nodup_filterMap {α β : Type} {f : α → Option β} {l : List α} (hl : l.Nodup)
    (hf : ∀ a a' b, f a = some b → f a' = some b → a = a') : (l.filterMap f).Nodup :=
  List.Pairwise.filterMap (S := (· ≠ ·)) f (fun a a' hne b hb _ hb' heq => hne (hf a a' b hb (heq ▸ hb'))) hl

theorem collectFrom_exact (m : List Int) (ps : List Player) (start : Int) (hs : 0 ≤ start)
    (wf : MapWF m ps) (l : List Int) (h : collectFrom m (partOf ps) start = some l) :
    -- exactly the dealt-in players
    (∀ pi, pi ∈ l ↔ (0 ≤ pi ∧ ∃ p, ps[pi.toNat]? = some p ∧ p.participated = true)) ∧
    -- each once
    l.Nodup ∧
    -- in the order of the clockwise walk
    l = (walkSeats m.length start).filterMap (pickAt m (partOf ps)) := by
  have hl : l = (walkSeats m.length start).filterMap (pickAt m (partOf ps)) := collect_fold _ _ _ [] l h
  refine ⟨?_, ?_, hl⟩
  · intro pi
    rw [hl, List.mem_filterMap, ← partOf_eq_true]
    constructor
    · rintro ⟨seat, _, hpick⟩
      exact (pickAt_eq_some.mp hpick).2
    · intro hpart
      obtain ⟨h0, p, hp, _⟩ := partOf_eq_true.mp hpart
      have hseat := wf.players pi.toNat p hp
      rw [Int.toNat_of_nonneg h0] at hseat
      obtain ⟨r0, r1⟩ := seatMapGet_range m p.seat pi hseat
      exact ⟨p.seat, walk_covers m.length start hs p.seat r0 r1, pickAt_eq_some.mpr ⟨hseat, hpart⟩⟩
  · rw [hl]
    refine nodup_filterMap (walk_nodup m.length start hs) fun s1 s2 b h1 h2 => ?_
    -- both seats carry the same dealt-in player index ⇒ the same seat
    have sits : ∀ seat, pickAt m (partOf ps) seat = some b → ∃ p, ps[b.toNat]? = some p ∧ p.seat = seat :=
      fun seat hb => wf.entries seat b (pickAt_eq_some.mp hb).1 (partOf_eq_true.mp (pickAt_eq_some.mp hb).2).1
    obtain ⟨p1, hp1, hs1⟩ := sits s1 h1
    obtain ⟨p2, hp2, hs2⟩ := sits s2 h2
    rw [← hs1, ← hs2, Option.some.inj (hp1.symm.trans hp2)]

/-- decidable form of `MapWF`, to evaluate it on examples (the C03 monitor evaluates `TBSpec.seatsConsistent`; no lemma
relates the two) -/
def mapWFb (m : List Int) (ps : List Player) : Bool :=
  (List.range m.length).all (fun (seat : Nat) => match m[seat]? with
    | some pi => decide (pi < 0) || (match ps[pi.toNat]? with | some p => p.seat == (seat : Int) | none => false)
    | none => true) &&
  (List.range ps.length).all (fun (i : Nat) => match ps[i]? with
    | some p => seatMapGet m p.seat == some (i : Int)
    | none => true)

theorem mapWF_of_b (m : List Int) (ps : List Player) (h : mapWFb m ps = true) : MapWF m ps := by
  unfold mapWFb at h
  rw [Bool.and_eq_true, List.all_eq_true, List.all_eq_true] at h
  obtain ⟨h1, h2⟩ := h
  constructor
  · intro seat pi hg h0
    obtain ⟨r0, r1⟩ := seatMapGet_range m seat pi hg
    have := h1 seat.toNat (List.mem_range.mpr ((Int.toNat_lt r0).mpr r1))
    rw [seatMapGet, if_pos ⟨r0, r1⟩] at hg
    rw [hg] at this
    dsimp only at this
    rw [decide_eq_false (Int.not_lt.mpr h0), Bool.false_or] at this
    cases hp : ps[pi.toNat]? with
    | none => rw [hp] at this; cases this
    | some p => rw [hp] at this; exact ⟨p, rfl, (eq_of_beq this).trans (Int.toNat_of_nonneg r0)⟩
  · intro i p hp
    have := h2 i (List.mem_range.mpr (List.getElem?_eq_some_iff.mp hp).1)
    rw [hp] at this
    exact eq_of_beq this

theorem partOf_congr (ps ps' : List Player) (h : ps'.map (·.participated) = ps.map (·.participated)) (pi : Int) :
    partOf ps' pi = partOf ps pi := by
  have key : ∀ l : List Player, partOf l pi = (decide (0 ≤ pi) && ((l.map (·.participated))[pi.toNat]?).getD false) := by
    intro l
    unfold partOf
    rw [List.getElem?_map]
    by_cases h0 : 0 ≤ pi
    · rw [if_pos h0, decide_eq_true h0]; cases l[pi.toNat]? <;> rfl
    · rw [if_neg h0, decide_eq_false h0]; rfl
  rw [key, key, h]

theorem handStart_nonneg (s : State) (ps : List Player) (wf : MapWF s.seatMap ps) :
    handStart s ps = -1 ∨ 0 ≤ handStart s ps := by
  fun_cases handStart s ps
  case case1 hd =>
    obtain ⟨p, hp, hpp⟩ := List.any_eq_true.mp hd
    obtain ⟨i, hi⟩ := List.mem_iff_getElem?.mp hp
    have hseat := wf.players i p hi
    rw [show p.seat = s.sm.dealer from eq_of_beq (Bool.and_eq_true _ _ ▸ hpp).2] at hseat
    exact .inr (seatMapGet_range _ _ _ hseat).1
  case case2 x hx =>
    have := List.find?_some hx
    simp only [Bool.and_eq_true, SM.inRange, decide_eq_true_eq] at this
    exact .inr this.1.1
  case case3 => exact .inl rfl

theorem handStart_congr (s : State) (ps ps' : List Player)
    (h : ps'.map (fun p => (p.participated, p.seat)) = ps.map (fun p => (p.participated, p.seat))) :
    handStart s ps' = handStart s ps := by
  have key : ∀ (l : List Player) (x : Int), l.any (fun p => p.participated && p.seat == x) =
      (l.map (fun p => (p.participated, p.seat))).any (fun q => q.1 && q.2 == x) := fun l x => by
    rw [List.any_map]; rfl
  unfold handStart
  simp only [key, h]

theorem gameIndexes_congr (s : State) (ps ps' : List Player)
    (h : ps'.map (fun p => (p.participated, p.seat)) = ps.map (fun p => (p.participated, p.seat))) :
    gameIndexes s ps' = gameIndexes s ps := by
  have hp := congrArg (List.map (·.1)) h
  rw [List.map_map, List.map_map] at hp
  unfold gameIndexes
  rw [handStart_congr s ps ps' h, funext (partOf_congr ps ps' hp),
    show ps'.length = ps.length by simpa using congrArg List.length h]

theorem gameIndexes_exact (s : State) (ps : List Player) (gi : List Int) (hrule : s.cfg.rule ≠ .shortDeck)
    (wf : MapWF s.seatMap ps) (hstart : handStart s ps ≠ -1) (h : gameIndexes s ps = some gi) :
    (∀ pi, pi ∈ gi ↔ (0 ≤ pi ∧ ∃ p, ps[pi.toNat]? = some p ∧ p.participated = true)) ∧ gi.Nodup ∧
    gi = (walkSeats s.seatMap.length (handStart s ps)).filterMap (pickAt s.seatMap (partOf ps)) := by
  unfold gameIndexes at h
  rw [if_neg hrule] at h
  exact collectFrom_exact s.seatMap ps _ ((handStart_nonneg s ps wf).resolve_left hstart) wf gi h

end TB
