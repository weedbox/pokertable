import PokerVerif.Lemmas.SMReach
/-!
# C04 — Button and blinds move by the dead-button rule for every history

Statement (properties.jsonl): between consecutive hands the big blind moves to the next seated-in player with
chips clockwise (nobody is skipped, it never moves backwards) and the big-blind seat always holds a dealt-in
player; with three or more dealt in, SB = previous BB seat and dealer = previous SB seat even if those seats are
now empty or busted (coming from heads-up the dealer is the nearest live seat before the small blind) and the
three seats are distinct; with exactly two dealt in, dealer and small blind are the other player.  A refused
rotation moves nothing and is refused only when fewer than two seated-in players have chips; short-deck tables
pass the dealer to the next dealt-in seat.

All theorems are about `SM.rotate` / `SM.init` (the model of `seat_manager`), for *every* seat function, seat
count and button position; the conclusions are the `SMSpec` predicates that the run-time monitor evaluates on
the implementation.  The modulus of the circular scans is whatever `Facts` says the source contains now.
-/
namespace SM
open SMSpec

-- Default rule.  The hypothesis of the clause theorems — the old big-blind seat is a seat of the table — holds in every
-- reachable state (`runOps_bbok`); `C04_for_every_history` puts the two together.

theorem validSeat_of {n : Nat} {i : Int} (h0 : 0 ≤ i) (hn : i < n) : validSeat n i = true := by
  rw [validSeat, decide_eq_true h0, decide_eq_true hn]; rfl

/-- **C04 — the big-blind seat always holds a dealt-in player.** -/
theorem C04_bb_dealt_in (st : State) (hbb0 : 0 ≤ st.bb) (hbbn : st.bb < st.maxSeat)
    (hok : (rotateDefault st).2 = .ok) : bbDealtIn (rotateDefault st).1 = true := by
  rcases rotateDefault_cases st with ⟨_, e⟩ | ⟨hge, ss, d, s, e, hc⟩ <;> rw [e] at hok ⊢
  · cases hok
  obtain ⟨_, h0, hn, _, _, hact⟩ := newBB_of_two_active st hbb0 hbbn hge
  have : activeAt ss (nextAlive st st.bb) = true := by
    rcases hc with ⟨_, rfl, _⟩ | ⟨_, _, rfl, _⟩ | ⟨_, _, rfl, _⟩
    · exact hact
    · exact hact
    · exact reflag_keeps_active _ _ _ _ _ hact
  exact Bool.and_eq_true_iff.2 ⟨validSeat_of h0 hn, this⟩

/-- **C04 — the big blind moves to the next seated-in player with chips clockwise: nobody is skipped, it never
moves backwards** (the conclusion is the spec's minimal-positive-clockwise-offset search). -/
theorem C04_bb_next (st : State) (hbb0 : 0 ≤ st.bb) (hbbn : st.bb < st.maxSeat)
    (hok : (rotateDefault st).2 = .ok) : bbNext st (rotateDefault st).1 = true := by
  rcases rotateDefault_cases st with ⟨_, e⟩ | ⟨hge, ss, d, s, e, _⟩ <;> rw [e] at hok ⊢
  · cases hok
  obtain ⟨hne, _⟩ := newBB_of_two_active st hbb0 hbbn hge
  exact Bool.and_eq_true_iff.2 ⟨beq_iff_eq.2 (nextAlive_eq_spec st st.bb hbb0), bne_iff_ne.2 hne⟩

/-- **C04 — with exactly two dealt in, dealer and small blind are the other player.** -/
theorem C04_hu (st : State) (hbb0 : 0 ≤ st.bb) (hbbn : st.bb < st.maxSeat)
    (hok : (rotateDefault st).2 = .ok) (h2 : dealtIn (rotateDefault st).1 = 2) :
    huSeats (rotateDefault st).1 = true := by
  rw [dealtIn_eq] at h2
  rcases rotateDefault_cases st with ⟨_, e⟩ | ⟨hge, ss, d, s, e, hc⟩ <;> rw [e] at hok h2 ⊢
  · cases hok
  rcases hc with ⟨_, rfl, rfl, hd⟩ | ⟨h, _, rfl, _⟩ | ⟨h, _, rfl, _⟩
  · -- the dealer is the next dealt-in seat after the new big blind: there is one, the other of the two
    obtain ⟨_, h0, hn, _⟩ := newBB_of_two_active st hbb0 hbbn hge
    obtain ⟨d0, dn, dact, dne⟩ := nextActive_props { st with seats := seats1 st, bb := nextAlive st st.bb } _ h0 hn
      (nextActive_of_two _ _ h0 hn hge)
    rw [← hd] at d0 dn dact dne
    simp only [huSeats, Bool.and_eq_true]
    exact ⟨⟨⟨beq_self_eq_true _, bne_iff_ne.2 dne⟩, validSeat_of d0 dn⟩, dact⟩
  · exact absurd h2 (Nat.ne_of_gt h)
  · exact absurd h2 (Nat.ne_of_gt (Nat.lt_of_lt_of_le h (reflag_count_ge ..)))

/-- **C04 — with three or more dealt in, SB = previous BB seat and dealer = previous SB seat (even if those seats
are now empty or busted); coming from heads-up the dealer is the nearest live seat before the small blind.** -/
theorem C04_ring (st : State) (hbb0 : 0 ≤ st.bb) (hbbn : st.bb < st.maxSeat)
    (hok : (rotateDefault st).2 = .ok) (h3 : 3 ≤ dealtIn (rotateDefault st).1) :
    ringSeats st (rotateDefault st).1 = true := by
  rw [dealtIn_eq] at h3
  rcases rotateDefault_cases st with ⟨_, e⟩ | ⟨hge, ss, d, s, e, hc⟩ <;> rw [e] at hok h3 ⊢
  · cases hok
  rcases hc with ⟨h, rfl, _⟩ | ⟨_, hu, _, rfl, rfl⟩ | ⟨_, hu, _, rfl, rfl⟩
  · exact absurd (h ▸ h3) (by decide)
  · simp only [ringSeats, hu, beq_self_eq_true, Bool.true_and, Bool.false_eq_true, if_false]
  · -- dealer = nearest live seat counter-clockwise from the new SB seat (= old BB seat)
    have hspec := (prevAlive_eq_spec { st with seats := seats1 st, bb := nextAlive st st.bb, sb := st.bb } st.bb hbb0).trans
      (congrArg (firstCcw st.maxSeat st.bb) (funext (reflag_alive _ _ _ _) : aliveAt (seats1 st) = aliveAt st.seats))
    have hex := prevAlive_of_two { st with seats := seats1 st, bb := nextAlive st st.bb, sb := st.bb } st.bb hbb0 hbbn
      (Nat.le_trans hge (activeCount_le_aliveCount _ _))
    simp only [ringSeats, hu, beq_self_eq_true, Bool.true_and, if_true, Bool.and_eq_true]
    exact ⟨beq_iff_eq.2 hspec, bne_iff_ne.2 hex⟩

/-- **C04 — for every history**: in every state the seat manager can reach from `NewSeatManager` by any sequence of its
public operations (arrivals by fixed and random seat, departures, sit-ins, has-chips updates, `InitPositions`,
any number of rotations — the recorded random first seat being a legal draw), an accepted rotation under the default
rule puts the big blind on a dealt-in player, on the next seated-in player with chips clockwise; with exactly two dealt
in, dealer and small blind are the other player; with three or more, SB / dealer take the previous BB / SB seats.  (The
hypothesis "the old big-blind seat is a seat of the table" of the theorems above holds in every reachable state:
`runOps_bbok`.) -/
theorem C04_for_every_history (n : Nat) (ops : List Op) (hl : OpsLegal (State.new n .default) ops)
    (hinit : (runOps (State.new n .default) ops).isInit = true)
    (hok : (rotateDefault (runOps (State.new n .default) ops)).2 = .ok) :
    bbDealtIn (rotateDefault (runOps (State.new n .default) ops)).1 = true ∧
    bbNext (runOps (State.new n .default) ops) (rotateDefault (runOps (State.new n .default) ops)).1 = true ∧
    (dealtIn (rotateDefault (runOps (State.new n .default) ops)).1 = 2 →
      huSeats (rotateDefault (runOps (State.new n .default) ops)).1 = true) ∧
    (3 ≤ dealtIn (rotateDefault (runOps (State.new n .default) ops)).1 →
      ringSeats (runOps (State.new n .default) ops) (rotateDefault (runOps (State.new n .default) ops)).1 = true) := by
  have hrule : (runOps (State.new n .default) ops).rule = .default :=
    runOps_induct (·.rule = .default) (fun st o h _ => (stepOp_rule st o).trans h) _ ops rfl hl
  obtain ⟨hb0, hbn⟩ := runOps_bbok _ ops (new_bbok n .default) hl hrule hinit
  exact ⟨C04_bb_dealt_in _ hb0 hbn hok, C04_bb_next _ hb0 hbn hok, C04_hu _ hb0 hbn hok, C04_ring _ hb0 hbn hok⟩

-- non-vacuity of `C04_for_every_history`: four arrivals (fixed and random seats), three sit in, positions are drawn, a
-- rotation, a bust, a late sit-in — a legal history after which positions are set and the next rotation is accepted
def exOps : List Op :=
  [.assign [(1, 0), (2, 2)], .randomAssign [3, 4] [4, 5], .join [1, 2, 3], .init (some 2), .rotate,
   .setChips 2 false, .join [4], .rotate]

example : OpsLegal (State.new 6 .default) exOps ∧ (runOps (State.new 6 .default) exOps).isInit = true ∧
    (rotateDefault (runOps (State.new 6 .default) exOps)).2 = .ok := by
  -- only the `init` step has a condition
  refine ⟨⟨trivial, trivial, trivial, ?_, trivial, trivial, trivial, trivial, trivial⟩, by decide +kernel⟩
  show legalInitChoice _ (some 2) = true
  decide +kernel

/-- **C04 — a refused rotation moves no button seat.** -/
theorem C04_refused_moves_nothing (st : State) (hr : (rotateDefault st).2 ≠ .ok) :
    buttonsUnchanged st (rotateDefault st).1 = true := by
  rcases rotateDefault_cases st with ⟨_, e⟩ | ⟨_, ss, d, s, e, _⟩ <;> rw [e] at hr ⊢
  · simp only [buttonsUnchanged, beq_self_eq_true, Bool.and_self]
  · exact absurd rfl hr

/-- **C04 — fewer than two seated-in players with chips ⇒ the rotation is refused** (never accepted with < 2). -/
theorem C04_refused_if_fewer_than_two_live (st : State) (h : aliveN st < 2) : (rotateDefault st).2 ≠ .ok := by
  rw [aliveN_eq] at h
  have h1 := activeCount_le_aliveCount st.maxSeat (seats1 st)
  have h2 : aliveCount st.maxSeat (seats1 st) = aliveCount st.maxSeat st.seats := aliveCount_reflag _ _ _ _ _
  rcases rotateDefault_cases st with ⟨_, e⟩ | ⟨hge, _⟩
  · rw [e]; exact nofun
  · exact absurd (Nat.le_trans hge (Nat.le_trans h1 (Nat.le_of_eq h2))) (Nat.not_le.2 h)

/-- **C04 (partial) — a rotation is refused only when fewer than two players are dealt in after the waiting flags
have been re-evaluated.**  The statement of the property says "fewer than two seated-in players have chips"; the
gap between the two is exactly `C04_refusal_full_fails_on_witness` below (finding D16). -/
theorem C04_refusal_partial (st : State) (hr : (rotateDefault st).2 ≠ .ok) :
    dealtIn (rotateDefault st).1 < 2 := by
  rw [dealtIn_eq]
  rcases rotateDefault_cases st with ⟨hlt, e⟩ | ⟨_, ss, d, s, e, _⟩ <;> rw [e] at hr ⊢
  · exact hlt
  · exact absurd rfl hr

/-- **C04 (partial) — with three or more dealt in the three button seats are distinct**, provided the previous
hand was not heads-up, its SB and BB seats differed and the new BB does not land on the previous SB seat.  The last
hypothesis is not implied by reachability: `C04_distinct_fails_on_witness` (finding D8). -/
theorem C04_distinct_partial (st : State) (hbb0 : 0 ≤ st.bb) (hbbn : st.bb < st.maxSeat)
    (hok : (rotateDefault st).2 = .ok) (h3 : 3 ≤ dealtIn (rotateDefault st).1)
    (hu : isHU st = false) (hpre : st.sb ≠ st.bb) (hnew : nextAlive st st.bb ≠ st.sb) :
    distinct3 (rotateDefault st).1 = true := by
  rw [dealtIn_eq] at h3
  rcases rotateDefault_cases st with ⟨_, e⟩ | ⟨hge, ss, d, s, e, hc⟩ <;> rw [e] at hok h3 ⊢
  · cases hok
  obtain ⟨_, _, _, _, hneb, _⟩ := newBB_of_two_active st hbb0 hbbn hge
  rcases hc with ⟨h, rfl, _⟩ | ⟨_, _, _, rfl, rfl⟩ | ⟨_, hu', _⟩
  · exact absurd (h ▸ h3) (by decide)
  · simp only [distinct3, bne_iff_ne, ne_eq, Bool.and_eq_true]
    exact ⟨⟨hpre, fun h => hneb h.symm⟩, fun h => hnew h.symm⟩
  · rw [hu] at hu'; cases hu'

private def sp (id : Nat) (isIn btw chips : Bool) : Option SeatPlayer :=
  some { id := id, isIn := isIn, between := btw, hasChips := chips }

/-- D8: 7 seats, dealer seat 1 busted, SB seat 2, BB seat 6, a newcomer waiting on seat 5 -/
def witnessD8 : State :=
  { maxSeat := 7, seats := seatsOfList [none, sp 3 true false false, sp 2 true false true, none, none, sp 4 true true true, sp 1 true false true],
    dealer := 1, sb := 2, bb := 6, rule := .default, isInit := true }

/-- the full "three seats are distinct" clause fails: three are dealt in, dealer seat = BB seat = 2 -/
theorem C04_distinct_fails_on_witness :
    (rotateDefault witnessD8).2 = .ok ∧ dealtIn (rotateDefault witnessD8).1 = 3 ∧
    (rotateDefault witnessD8).1.dealer = 2 ∧ (rotateDefault witnessD8).1.sb = 6 ∧ (rotateDefault witnessD8).1.bb = 2 ∧
    distinct3 (rotateDefault witnessD8).1 = false := by decide +kernel

/-- D16: 4 seats, D=0 SB=1 BB=3, seats 1 and 3 busted, a newcomer waiting on seat 2 -/
def witnessD16 : State :=
  { maxSeat := 4, seats := seatsOfList [sp 1 true false true, sp 2 true false false, sp 4 true true true, sp 3 true false false],
    dealer := 0, sb := 1, bb := 3, rule := .default, isInit := true }

/-- the full "refused only when fewer than two seated-in players have chips" clause fails: two live players,
rotation refused because the newcomer is still flagged as waiting -/
theorem C04_refusal_full_fails_on_witness :
    (rotateDefault witnessD16).2 ≠ .ok ∧ aliveN witnessD16 = 2 ∧ dealtIn (rotateDefault witnessD16).1 = 1 := by decide +kernel

-- non-vacuity: concrete non-trivial states meet the hypotheses of the theorems above
/-- a 9-seat ring with a dead button and a busted player: accepted, 4 dealt in, BB moves 5 → 7 -/
def exampleRing : State :=
  { maxSeat := 9, seats := seatsOfList [sp 1 true false true, none, sp 2 true false false, sp 3 true false true, none,
      sp 4 true false true, none, sp 5 true false true, none],
    dealer := 2, sb := 3, bb := 5, rule := .default, isInit := true }

example : 0 ≤ exampleRing.bb ∧ exampleRing.bb < exampleRing.maxSeat ∧ (rotateDefault exampleRing).2 = .ok ∧
    3 ≤ dealtIn (rotateDefault exampleRing).1 ∧ isHU exampleRing = false ∧ exampleRing.sb ≠ exampleRing.bb ∧
    nextAlive exampleRing exampleRing.bb ≠ exampleRing.sb ∧ (rotateDefault exampleRing).1.bb = 7 ∧
    (rotateDefault exampleRing).1.sb = 5 ∧ (rotateDefault exampleRing).1.dealer = 3 := by decide +kernel

/-- heads-up on 6 seats -/
def exampleHU : State :=
  { maxSeat := 6, seats := seatsOfList [none, sp 1 true false true, none, none, sp 2 true false true, none],
    dealer := 1, sb := 1, bb := 4, rule := .default, isInit := true }

example : (rotateDefault exampleHU).2 = .ok ∧ dealtIn (rotateDefault exampleHU).1 = 2 ∧
    (rotateDefault exampleHU).1.bb = 1 ∧ (rotateDefault exampleHU).1.dealer = 4 := by decide +kernel

end SM
