import PokerVerif.Lemmas.TBInv
import PokerVerif.Examples.TB
/-!
# C03 — Seat bookkeeping stays exclusive, consistent and all-or-nothing

Statement: at every moment each seat holds at most one player and each player at most one seat within the configured
seat count, and the seat map, the player list and the seat manager name the same occupant for every seat with the
same seated-in flag.  A seat vacated by a departure can be taken again.  A membership operation that reports an error
(table full, seat taken, duplicate or unknown player) leaves all of these exactly as they were.

Proved here: all-or-nothing for every seat-manager mutator and for `PlayerReserve`, `PlayersLeave`, `PlayerJoin`,
`PlayerRedeemChips`; capacity; a vacated seat is empty again and an empty in-range seat accepts a new player.
`UpdateTablePlayers` is leave-then-join: if the join half fails the departure is already applied (known finding D20,
`C03_update_not_atomic_on_witness`); for batches mixing fixed and random seats the release of the fixed seats is
modelled (`batchAdd`) and compared with the implementation on every run.

**For every history** (`C03_for_every_history`, `C03_occupants`, `C03_membership_calls_cannot_panic`): starting from
`CreateTable`, after any sequence of the 19 kinds of event of `TB.Event` — arrivals single and in batches with fixed and
drawn seats, sit-ins, top-ups, departures, blind changes, pause/close/release/start, gate set-ups and firings (positions
drawn or rotated), turns of the retry loop, settlement signals, settlements, the continue step, the stale auto-join
completion — the table's seat map and player list are tight and of the configured length (`Booked`), the seat manager
holds, on every seat of the table, exactly the id of the player the table lists there, no id being listed twice (`Agree`),
**and** every entry of the hand's player list is an index into the player list (`GidxOK`).  The only hypothesis
(`DrawsLegal`): each recorded random seat draw is one `RandomAssignSeats` could have made (a fact about the recording,
checked by the driver on every trace).  No "did not panic" hypothesis is left: in such a state neither `batchAddPlayers` nor
`calcLeavePlayers` can index out of range (`batchAdd_no_panic`, `batchRemove_no_panic`) — the obstruction met while proving
the latter was the defect D30 (hand list left stale by a departure after a pause/close mid-hand), repaired in /repo.
The seated-in *flag* is not part of `Agree` but a clause of its own (`FlagInv`, `C03_flags_for_every_history`): in the model
a sit-in is one step and both sides show the same flag after every event.  In the code the stale auto-join completion (D22)
makes them differ transiently (and D31, fixed, could lose a lock-free join under a concurrent open), so the monitor
`TBSpec.c03Inv` reads the flag at quiescent points only.
-/
namespace SM

/-- **C03 — every seat-manager mutator is all-or-nothing**: an error leaves the state exactly as it was. -/
theorem C03_sm_atomic (st : State) :
    (∀ b, (assign st b).2 ≠ .ok → (assign st b).1 = st) ∧
    (∀ ids ch, (randomAssign st ids ch).2 ≠ .ok → (randomAssign st ids ch).1 = st) ∧
    (∀ ids, (remove st ids).2 ≠ .ok → (remove st ids).1 = st) ∧
    (∀ ids, (join st ids).2 ≠ .ok → (join st ids).1 = st) ∧
    (∀ id b, (setChips st id b).2 ≠ .ok → (setChips st id b).1 = st) :=
  ⟨fun b => (assign_atomic st b).err, fun ids ch => (randomAssign_atomic st ids ch).err, fun ids => (remove_atomic st ids).err,
    fun ids => (join_atomic st ids).err, fun id b => (setChips_atomic st id b).err⟩

/-- **C03 — a seat vacated by a departure is empty again** (and no other seat is touched). -/
theorem C03_vacated (st : State) (ids : List Nat) (hok : (remove st ids).2 = .ok) :
    (∀ id ∈ ids, (remove st ids).1.seats (seatOf st id) = none) ∧
    (∀ j, j ∉ ids.map (seatOf st) → (remove st ids).1.seats j = st.seats j) := by
  rcases remove_cases st ids with ⟨_, h⟩ | ⟨_, h⟩ <;> rw [h] at hok ⊢
  · cases hok
  · exact ⟨fun id hid => clearSeats_mem _ _ _ (List.mem_map.mpr ⟨id, hid, rfl⟩), fun j hj => clearSeats_other _ _ _ hj⟩

/-- **C03 — … and can be taken again**: a fresh player is accepted on any empty seat of the table. -/
theorem C03_reuse (st : State) (id : Nat) (seat : Nat) (hs : seat < st.maxSeat)
    (he : st.seats (Int.ofNat seat) = none) (hf : hasPlayer st id = false) :
    (assign st [(id, Int.ofNat seat)]).2 = .ok := by
  have h1 : ¬ emptyCount st.maxSeat st.seats < [(id, Int.ofNat seat)].length :=
    Nat.not_lt.2 (count_pos _ _ seat hs (by rw [occupiedAt, he]; rfl))
  have hr : inRange st (Int.ofNat seat) = true := (inRange_iff st _).2 ⟨Int.natCast_nonneg seat, Int.ofNat_lt.2 hs⟩
  have ho : occupiedByOther st id (Int.ofNat seat) = false := by rw [occupiedByOther_inRange st id _ hr, he]; rfl
  have h2 : assignLoopErrs st [(id, Int.ofNat seat)] = [] := by
    simp only [assignLoopErrs, List.any_cons, List.any_nil, hr, ho, bne_self_eq_false, Bool.false_and, Bool.and_false,
      Bool.not_true, Bool.or_false, Bool.false_eq_true, if_false, List.append_nil]
  rw [assign, if_neg h1]
  simp only [h2, List.isEmpty_nil, Bool.not_true, Bool.false_eq_true, if_false, List.any_cons, List.any_nil, Bool.or_false, hf]
end SM

namespace TB

/-- seat-manager knows every listed player (one clause of the consistency invariant `TBSpec.c03Inv`) -/
def SMKnows (s : State) : Prop := ∀ id, findPlayerIdx s id ≠ none → SM.hasPlayer s.sm id = true

theorem fixed_or_random (j : Join) : fixedMap [j] = [] ∨ randomIds [j] = [] := by
  by_cases h : j.seat = -1 <;> simp [fixedMap, randomIds, h]

theorem batchAdd_single_atomic (s : State) (j : Join) (ch : List Int) (e : Err) :
    (batchAdd s [j] ch).2 = .err e → (batchAdd s [j] ch).1 = s := by
  generalize hjs : [j] = js
  fun_cases batchAdd s js ch
  case case1 | case2 => exact fun _ => rfl
  case case3 _ fixed rnd r1 _ r2 _ hr2 sm' =>
    -- the draw failed: with a single arrival there was no fixed seat to release
    subst hjs
    rcases fixed_or_random j with h | h
    · intro _; simp only [sm', r1, fixed, h, List.isEmpty_nil, if_true]
    · simp only [r2, rnd, h, List.isEmpty_nil, if_true] at hr2; cases hr2
  case case4 | case5 => exact nofun

/-- **C03 — `PlayerReserve` is all-or-nothing** (table full, seat taken, out of range, duplicate …). -/
theorem C03_reserve_atomic (s : State) (j : Join) (ch : List Int) (hk : SMKnows s) (e : Err) :
    (reserve s j ch).2 = .err e → (reserve s j ch).1 = s := by
  rcases reserve_cases s j ch with ⟨_, _, h⟩ | ⟨_, _, h⟩ | ⟨i, hi, h⟩ <;> rw [h]
  · exact fun _ => rfl
  · exact batchAdd_single_atomic s j ch e
  · -- a listed player is known to the seat manager, which then cannot refuse
    rcases SM.setChips_cases s.sm j.id true with ⟨hno, _⟩ | ⟨_, heq⟩
    · rw [hk j.id (hi ▸ nofun)] at hno; cases hno
    · rw [heq]; exact nofun

/-- **C03 — a full table refuses a new reservation and stays as it is.** -/
theorem C03_full (s : State) (j : Join) (ch : List Int) (hnew : findPlayerIdx s j.id = none)
    (hfull : s.players.length = s.cfg.maxSeat) :
    reserve s j ch = (s, .err .noEmptySeats) := by
  rcases reserve_cases s j ch with ⟨_, _, h⟩ | ⟨_, hne, _⟩ | ⟨i, hi, _⟩
  · exact h
  · exact absurd hfull hne
  · exact nomatch hnew.symm.trans hi

/-- **C03 — `PlayersLeave` is all-or-nothing** (an unknown id anywhere in the batch). -/
theorem C03_leave_atomic (s : State) (ids : List Nat) (e : Err) :
    (batchRemove s ids).2 = .err e → (batchRemove s ids).1 = s := by
  rcases batchRemove_cases s ids with ⟨_, h⟩ | ⟨h, _⟩ | ⟨_, _, _, _, _, h⟩ <;> rw [h]
  · exact fun _ => rfl
  · exact nofun
  · exact nofun

/-- `PlayerJoin` / `PlayerRedeemChips` of a stranger -/
theorem C03_stranger (s : State) (id : Nat) (c : Int) (h : findPlayerIdx s id = none) :
    join s id = (s, .err .playerNotFound) ∧ redeem s id c = (s, .err .playerNotFound) ∧
    finish s id = (s, .err .playerNotFound) := by
  refine ⟨?_, ?_, ?_⟩
  · rw [join, joinCore, h]
  · rw [redeem, h]
  · rw [finish, h]

/-- **C03 — a departure keeps the table's seat bookkeeping**: after a successful `PlayersLeave` the seat map (rebuilt for
the players that stay) and the player list describe the same seating again — every occupied entry names the listed player
sitting there, every listed player's seat names him, every other entry is `-1` — with one entry per seat. -/
theorem C03_leave_keeps_bookkeeping (s : State) (ids : List Nat) (h : Booked s) : Booked (batchRemove s ids).1 :=
  batchRemove_booked s ids h

/-- **C03 — a departure keeps seat manager and table in agreement**: if before a `PlayersLeave` the seat map, the player
list and the seat manager name the same occupant for every seat (`Agree`) and the table's own bookkeeping is consistent
(`Booked`), they do so afterwards — whether the call succeeds or is refused (the index-out-of-range panics of
`calcLeavePlayers` are the excluded case). -/
theorem C03_leave_keeps_agreement (s : State) (ids : List Nat) (hb : Booked s) (ha : Agree s)
    (hnp : (batchRemove s ids).2 ≠ .panic) : Booked (batchRemove s ids).1 ∧ Agree (batchRemove s ids).1 :=
  batchRemove_inv s ids ⟨hb, ha⟩ hnp

/-- **C03 — everything but arrivals and departures leaves the occupants alone**: sit-ins, top-ups, settlement signals, a
hand opening (positions drawn or rotated), settlement and the continue step change neither the listed ids, nor the seat
map, nor who the seat manager holds where. -/
theorem C03_quiet_operations (s : State) :
    (∀ id, Quiet (join s id).1 s ∧ SeatsEq (join s id).1 s) ∧
    (∀ id c, Quiet (redeem s id c).1 s ∧ SeatsEq (redeem s id c).1 s) ∧
    (∀ id, Quiet (finish s id).1 s ∧ SeatsEq (finish s id).1 s) ∧
    (∀ ch ok, Quiet (gateFire s ch ok).1 s ∧ SeatsEq (gateFire s ch ok).1 s) ∧
    (∀ r, Quiet (settle s r).1 s ∧ SeatsEq (settle s r).1 s) ∧
    (∀ e, Quiet (continueGame s e).1 s ∧ SeatsEq (continueGame s e).1 s) ∧
    (Quiet (autoJoinStale s) s ∧ SeatsEq (autoJoinStale s) s) :=
  have h : ∀ e, Calm s e → Quiet (step s e) s ∧ SeatsEq (step s e) s := fun e hc => ⟨calm_quiet s e hc, calm_seatsEq s e hc⟩
  ⟨fun id => h (.join id) trivial, fun id c => h (.redeem id c) trivial, fun id => h (.finish id) trivial,
   fun ch ok => h (.fire ch ok) trivial, fun r => h (.settle r) trivial, fun e => h (.continue e) trivial, h .autojoin trivial⟩

/-- **C03 (partial) — the seat bookkeeping of the table holds in every reachable state**: for every table, every history
of every length (arrivals single and in batches, top-ups, departures, hands opened, settled and continued, pauses, …),
*provided every arrival was given seats the table showed free, one each* (`ArrivalsOK`: the seat manager's answer agrees
with the table's seat map — the other half of the invariant, evaluated by the monitor `c03Inv` on every observed state;
`arrivalOK_of_agree` derives it from the agreement with the seat manager, which is how `C03_for_every_history` does without
this premise).  In particular: each seat holds at most one player, each player exactly one seat within the seat count, and
seat map and player list name the same occupant for every seat. -/
theorem C03_bookkeeping_partial (cfg : Meta) (b : Blind) (evs : List Event) (ha : ArrivalsOK (create cfg b) evs) :
    Booked (run (create cfg b) evs) := run_booked _ evs (create_booked cfg b) ha

/-- … and no two listed players share a seat -/
theorem C03_one_player_per_seat_partial (cfg : Meta) (b : Blind) (evs : List Event) (ha : ArrivalsOK (create cfg b) evs) :
    (run (create cfg b) evs).players.Pairwise (fun p q => p.seat ≠ q.seat) :=
  MapTight.seats_distinct _ _ (C03_bookkeeping_partial cfg b evs ha).1

-- non-vacuity: the example history (three arrivals, joins, a hand with an add-on, a departure) meets the premise
example : ArrivalsOK (create exCfg exBlind) exHistory := by
  simp only [exHistory, ArrivalsOK, EventArrivalOK, step, and_true]
  decide +kernel

/-- **C03 — for every history**: in every state reachable from `CreateTable` by any history whose recorded seat draws are
legal, the table's seat bookkeeping is consistent, the seat manager agrees with it seat by seat, and the hand's player list
points into the player list. -/
theorem C03_for_every_history (cfg : Meta) (b : Blind) (evs : List Event) (hl : DrawsLegal (create cfg b) evs) :
    Booked (run (create cfg b) evs) ∧ Agree (run (create cfg b) evs) ∧ GidxOK (run (create cfg b) evs) :=
  have h := run_inv4 _ evs (create_inv4 cfg b) hl
  ⟨h.booked, h.agree, h.gidx⟩

/-- **C03 — … also for a table created with players** (`CreateTable` with `JoinPlayers`, the "create-with-players" of the
quantifier): the invariant holds right after the creation and after every history that follows -/
theorem C03_created_with_players (cfg : Meta) (b : Blind) (js : List Join) (ch : List Int)
    (hd : DrawLegal (create cfg b) (.update js [] ch)) (evs : List Event)
    (hl : DrawsLegal (createWith cfg b js ch).1 evs) :
    Booked (run (createWith cfg b js ch).1 evs) ∧ Agree (run (createWith cfg b js ch).1 evs) ∧
      GidxOK (run (createWith cfg b js ch).1 evs) :=
  have h := run_inv4 _ evs (createWith_inv4 cfg b js ch hd) hl
  ⟨h.booked, h.agree, h.gidx⟩

/-- **C03 — … with the same seated-in flag, for every history** (`Lemmas/TBFlags`, `Lemmas/TBInv`): in every state reachable from
`CreateTable` by any history of the 19 event kinds whose recorded seat draws are legal, the seat manager holds every listed
player on his seat — under his id — *with the table's seated-in flag*.  Sit-ins write both flags (`PlayerJoin` sets the
table's first; on a table whose books agree the seat manager cannot refuse: `C03_join_sets_both_flags`), arrivals come not
seated-in on both sides and go to empty seats, a refused batch gives back only what it had just taken, departures only clear
seats, and nothing else — top-ups, level changes, the gate, opens with their rotation and waiting flags, settlements, the
continue step's has-chips refresh — touches a flag. -/
theorem C03_flags_for_every_history (cfg : Meta) (b : Blind) (evs : List Event) (hl : DrawsLegal (create cfg b) evs) :
    let t := run (create cfg b) evs
    ∀ (i : Nat) (p : Player), t.players[i]? = some p →
      ∃ sp, t.sm.seats p.seat = some sp ∧ sp.id = p.id ∧ sp.isIn = p.isIn := by
  intro t i p hp
  obtain ⟨hb, ha, _, hf⟩ := run_inv4 _ evs (create_inv4 cfg b) hl
  obtain ⟨sp, hs, hid⟩ := Option.map_eq_some_iff.1 (ha.at_player hb (List.mem_of_getElem? hp))
  exact ⟨sp, hs, hid, hf p (List.mem_of_getElem? hp) sp hs hid⟩

/-- … also for a table created with players, and after every history that follows -/
theorem C03_flags_created_with_players (cfg : Meta) (b : Blind) (js : List Join) (ch : List Int)
    (hd : DrawLegal (create cfg b) (.update js [] ch)) (evs : List Event)
    (hl : DrawsLegal (createWith cfg b js ch).1 evs) :
    FlagInv (run (createWith cfg b js ch).1 evs) :=
  (run_inv4 _ evs (createWith_inv4 cfg b js ch hd) hl).flags

-- non-vacuity: two players reserve, one of them sits in — both sides say so
def exFlagsTable : State := run (create exCfg exBlind) (exCycle.take 3)
example : exFlagsTable.players.map (fun p => (p.id, p.seat, p.isIn)) = [(1, 0, true), (2, 2, false)] ∧
    (exFlagsTable.sm.seats 0).map (fun sp => (sp.id, sp.isIn)) = some (1, true) ∧
    (exFlagsTable.sm.seats 2).map (fun sp => (sp.id, sp.isIn)) = some (2, false) := by decide +kernel

/-- … spelled out: no two listed players share a seat or an id, every listed player sits on a seat of the table whose
seat-map entry names him, and the seat manager's occupant of every seat of the table is the table's -/
theorem C03_occupants (cfg : Meta) (b : Blind) (evs : List Event) (hl : DrawsLegal (create cfg b) evs) :
    let t := run (create cfg b) evs
    t.players.Pairwise (fun p q => p.seat ≠ q.seat) ∧ (t.players.map (·.id)).Nodup ∧
    (∀ (i : Nat) (p : Player), t.players[i]? = some p → 0 ≤ p.seat ∧ p.seat < t.cfg.maxSeat ∧ seatMapGet t.seatMap p.seat = some (i : Int) ∧
      SM.idAt t.sm p.seat = some p.id) ∧
    (∀ seat : Int, 0 ≤ seat → seat < t.cfg.maxSeat → SM.idAt t.sm seat = occId t.seatMap t.players seat) ∧
    SM.IdsUnique t.sm := by
  intro t
  obtain ⟨hb, ha, _⟩ := C03_for_every_history cfg b evs hl
  refine ⟨MapTight.seats_distinct _ _ hb.1, ha.ids, fun i p hp => ?_, ha.seats, sm_unique t hb ha⟩
  have hm := List.mem_of_getElem? hp
  exact ⟨(hb.seat_range hm).1, (hb.seat_range hm).2, hb.1.1.players i p hp, ha.at_player hb hm⟩

/-- **C03 — the two seated-in flags are written together.**  `PlayerJoin` sets the table's flag *before* it asks the seat
manager; a refusal there would leave the two apart.  On a table whose books agree (`Inv`, i.e. in every reachable state —
`C03_for_every_history`) the seat manager knows every listed player who has a seat, so it cannot refuse: the sit-in of a
listed, seated, not yet seated-in player answers `ok`, and afterwards the table's entry and the seat manager's occupant of
his seat both say seated-in. -/
theorem C03_join_sets_both_flags (s : State) (hi : Inv s) (id i : Nat) (p : Player)
    (hf : findPlayerIdx s id = some i) (hp : s.players[i]? = some p) (hseat : p.seat ≠ -1) (hout : p.isIn = false) :
    (joinCore s id).2.1 = .ok ∧
    ((joinCore s id).1.players[i]?).map (·.isIn) = some true ∧
    ((joinCore s id).1.sm.seats p.seat).map (·.isIn) = some true := by
  obtain ⟨hb, ha⟩ := hi
  obtain ⟨sp, hsp, _⟩ := Option.map_eq_some_iff.1 (ha.at_player hb (List.mem_of_getElem? hp))
  unfold joinCore
  simp only [hf, hp, hseat, hout, join_listed hb ha hf hp, beq_iff_eq, if_false, Bool.false_eq_true]
  refine ⟨trivial, ?_, ?_⟩
  · rw [modAt, List.getElem?_modify_eq, hp]; rfl
  · rw [SM.updAt_apply, if_pos rfl, hsp]; rfl

/-- **C03 — no membership call can crash the table**: in every reachable state `PlayersLeave` of anybody, and
`PlayerReserve` / `UpdateTablePlayers` arrivals with a legal draw, end in `ok` or in an error — never in an index out of
range (which would leave the seat manager updated and the table not). -/
theorem C03_membership_calls_cannot_panic (cfg : Meta) (b : Blind) (evs : List Event) (hl : DrawsLegal (create cfg b) evs) :
    let t := run (create cfg b) evs
    (∀ ids, (batchRemove t ids).2 ≠ .panic) ∧
    (∀ js ch, BatchLegal t js ch → (batchAdd t js ch).2 ≠ .panic) := by
  intro t
  obtain ⟨hb, ha, hg⟩ := C03_for_every_history cfg b evs hl
  exact ⟨fun ids => batchRemove_no_panic t ids hb hg, fun js ch h => batchAdd_no_panic t js ch hb ha h⟩

-- non-vacuity: the example history (three arrivals, one on a drawn seat, joins, a hand with an add-on, a departure)
example : DrawsLegal (create exCfg exBlind) exHistory := by
  simp only [exHistory, DrawsLegal, DrawLegal, step, and_true]
  decide +kernel

/-- D20: a batch update whose join half fails has already applied its departures -/
theorem C03_update_not_atomic_on_witness :
    let t := run (create exCfg exBlind) [.reserve { id := 1, chips := 500, seat := 0 } [], .reserve { id := 2, chips := 300, seat := 2 } []]
    (update t [{ id := 3, chips := 100, seat := 2 }] [1] []).2 = .err (.sm [.seatTaken]) ∧
    (update t [{ id := 3, chips := 100, seat := 2 }] [1] []).1.players.length = 1 ∧ t.players.length = 2 := by decide +kernel

-- non-vacuity for the atomicity theorems: a refused reservation on a seat that is taken
example : let t := run (create exCfg exBlind) [.reserve { id := 1, chips := 500, seat := 0 } []]
    (reserve t { id := 2, chips := 100, seat := 0 } []).2 = .err (.sm [.seatTaken]) ∧
    (reserve t { id := 2, chips := 100, seat := 7 } []).2 = .err (.sm [.unavailableSeat]) := by decide +kernel

end TB
