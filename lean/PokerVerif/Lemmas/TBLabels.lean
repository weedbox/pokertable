import PokerVerif.Lemmas.TBIndex
import PokerVerif.Lemmas.TBOpen
import PokerVerif.Lemmas.SMIds
/-!
# Who gets which label

`labelPlan sm` (`TBOpen`) is the label walk of `updatePlayerPositions` as a function of the seat manager alone, recording
*(id, label)* instead of writing.  Here: the ids in a plan are, in walk order, dealt-in occupants of seats (`activeIdAt`) and the
labels are, in order, labels of the queue (`PlanInv`, `labelPlan_sublists`); no id comes up twice (`walk_activeIds_nodup`);
the dealt-in occupant of the big-blind seat comes first (`labelPlan_head`); and what the player list looks like after a plan
was written into it (`applyPlan_eq_map`).  Everything C06 says about who gets which label is one of these.
-/
namespace TB

/-- the id the walk would label at `seat`: the occupant, if the seat is a key of the seat manager and he is dealt in -/
def activeIdAt (sm : SM.State) (seat : Int) : Option Nat :=
  if SM.inRange sm seat then
    match sm.seats seat with
    | some sp => if sp.active then some sp.id else none
    | none => none
  else none

theorem activeIdAt_eq_some {sm : SM.State} {seat : Int} {x : Nat} :
    activeIdAt sm seat = some x ↔
      SM.inRange sm seat = true ∧ ∃ sp, sm.seats seat = some sp ∧ sp.active = true ∧ sp.id = x := by
  fun_cases activeIdAt sm seat
  case case1 hr sp hs ha =>
    exact ⟨fun h => ⟨hr, sp, hs, ha, Option.some.inj h⟩,
      fun ⟨_, sp', hs', _, hx⟩ => by cases hs.symm.trans hs'; exact congrArg some hx⟩
  case case2 sp hs ha => exact ⟨nofun, fun ⟨_, sp', hs', ha', _⟩ => by cases hs.symm.trans hs'; exact absurd ha' ha⟩
  case case3 hs => exact ⟨nofun, fun ⟨_, _, hs', _⟩ => nomatch hs.symm.trans hs'⟩
  case case4 hr => exact ⟨nofun, fun h => absurd h.1 hr⟩

/-- … in the seat manager's terms -/
theorem activeIdAt_idAt (sm : SM.State) (seat : Int) (x : Nat) (h : activeIdAt sm seat = some x) :
    0 ≤ seat ∧ seat < sm.maxSeat ∧ SM.idAt sm seat = some x ∧ SM.activeAt sm.seats seat = true := by
  obtain ⟨hr, sp, hs, ha, rfl⟩ := activeIdAt_eq_some.mp h
  have hr' := (SM.inRange_iff sm seat).1 hr
  exact ⟨hr'.1, hr'.2, by rw [SM.idAt, hs]; rfl, by rw [SM.activeAt, hs]; exact ha⟩

/-- invariant of the plan walk: the ids handed a label so far are, in order, among the dealt-in occupants of the seats
visited so far; the labels handed out so far are, in order, among the labels taken off the front of the queue -/
structure PlanInv (sm : SM.State) (q0 : List (List String)) (visited : List Int)
    (st : Plan × List (List String) × Bool) : Prop where
  ids : (st.1.map (·.1)).Sublist (visited.filterMap (activeIdAt sm))
  labels : ∃ c, c ++ st.2.1 = q0 ∧ (st.1.map (·.2)).Sublist c

theorem PlanInv.skip {sm : SM.State} {q0 : List (List String)} {visited : List Int} {pl : Plan} {q : List (List String)}
    {stop : Bool} (h : PlanInv sm q0 visited (pl, q, stop)) (seat : Int) (stop' : Bool) :
    PlanInv sm q0 (visited ++ [seat]) (pl, q, stop') := by
  refine ⟨?_, h.labels⟩
  rw [List.filterMap_append]
  exact h.ids.trans (List.sublist_append_left _ _)

theorem PlanInv.consume {sm : SM.State} {q0 : List (List String)} {visited : List Int} {pl : Plan} {hd : List String}
    {rest : List (List String)} {stop : Bool} (h : PlanInv sm q0 visited (pl, hd :: rest, stop)) (seat : Int) (stop' : Bool) :
    PlanInv sm q0 (visited ++ [seat]) (pl, rest, stop') := by
  obtain ⟨c, hc, hl⟩ := h.labels
  exact ⟨(h.skip seat stop').ids, c ++ [hd], (List.append_assoc ..).trans hc, hl.trans (List.sublist_append_left _ _)⟩

theorem PlanInv.label {sm : SM.State} {q0 : List (List String)} {visited : List Int} {pl : Plan} {hd : List String}
    {rest : List (List String)} {stop : Bool} (h : PlanInv sm q0 visited (pl, hd :: rest, stop)) (seat : Int) (stop' : Bool)
    (id : Nat) (hid : activeIdAt sm seat = some id) :
    PlanInv sm q0 (visited ++ [seat]) (pl ++ [(id, hd)], rest, stop') := by
  obtain ⟨c, hc, hl⟩ := h.labels
  refine ⟨?_, c ++ [hd], (List.append_assoc ..).trans hc, ?_⟩
  · rw [List.map_append, List.filterMap_append, List.filterMap_cons, hid]
    exact List.Sublist.append h.ids (List.Sublist.refl _)
  · rw [List.map_append]
    exact List.Sublist.append hl (List.Sublist.refl _)

/-- what one step of the walk can do at `seat`: pass on with the queue as it is, drop the front label, or hand the front
label to the dealt-in occupant -/
inductive PlanMove (sm : SM.State) (seat : Int) :
    Plan × List (List String) × Bool → Plan × List (List String) × Bool → Prop
  | pass (pl q stop stop') : PlanMove sm seat (pl, q, stop) (pl, q, stop')
  | drop (pl hd rest stop stop') : PlanMove sm seat (pl, hd :: rest, stop) (pl, rest, stop')
  | label (pl hd rest stop stop' id) (h : activeIdAt sm seat = some id) :
      PlanMove sm seat (pl, hd :: rest, stop) (pl ++ [(id, hd)], rest, stop')

theorem planStep_move (sm : SM.State) (seat : Int) (acc : Option (Plan × List (List String) × Bool))
    (st' : Plan × List (List String) × Bool) (h : planStep sm acc seat = some st') :
    ∃ st, acc = some st ∧ PlanMove sm seat st st' := by
  revert h
  fun_cases planStep sm acc seat <;> intro h
  case case1 | case4 => cases h
  case case5 pl stop _ hr hd rest sp hs ha =>
    rw [Bool.not_eq_true, Bool.not_eq_false'] at hr
    exact ⟨_, rfl, Option.some.inj h ▸ .label _ _ _ _ _ sp.id (activeIdAt_eq_some.mpr ⟨hr, sp, hs, ha, rfl⟩)⟩
  case case6 | case8 => exact ⟨_, rfl, Option.some.inj h ▸ .drop ..⟩
  all_goals exact ⟨_, rfl, Option.some.inj h ▸ .pass ..⟩

theorem planStep_label (sm : SM.State) (seat : Int) (pl : Plan) (hd : List String) (rest : List (List String)) (id : Nat)
    (h : activeIdAt sm seat = some id) :
    planStep sm (some (pl, hd :: rest, false)) seat = some (pl ++ [(id, hd)], rest, rest.isEmpty) := by
  obtain ⟨hr, sp, hs, ha, rfl⟩ := activeIdAt_eq_some.mp h
  simp [planStep, hr, hs, ha]

theorem labelPlan_some (sm : SM.State) (pl : Plan) (h : labelPlan sm = some pl) :
    ∃ q stop, (walkFromBB sm).foldl (planStep sm) (some ([], labelQueue (slotCount sm), false)) = some (pl, q, stop) := by
  unfold labelPlan at h
  split at h
  · cases h
  next q stop hf => exact ⟨q, stop, Option.some.inj h ▸ hf⟩

/-- who can be in the plan, and with what: the ids are, in walk order, among the dealt-in occupants of the seats; the
labels are, in order, among the labels of the queue for the slot count -/
theorem labelPlan_sublists (sm : SM.State) (pl : Plan) (h : labelPlan sm = some pl) :
    (pl.map (·.1)).Sublist ((walkFromBB sm).filterMap (activeIdAt sm)) ∧
    (pl.map (·.2)).Sublist (labelQueue (slotCount sm)) := by
  obtain ⟨q, stop, hf⟩ := labelPlan_some sm pl h
  have inv : PlanInv sm (labelQueue (slotCount sm)) ([] ++ walkFromBB sm) (pl, q, stop) :=
    foldl_some_inv (fun _ => rfl) (PlanInv sm (labelQueue (slotCount sm))) (fun v st seat st' hs hv => by
      obtain ⟨_, h1, hm⟩ := planStep_move sm seat _ st' hs
      cases h1
      cases hm with
      | pass => exact hv.skip seat _
      | drop => exact hv.consume seat _
      | label _ _ _ _ _ id hid => exact hv.label seat _ id hid) hf ⟨by simp, [], by simp, by simp⟩
  refine ⟨by simpa using inv.ids, ?_⟩
  obtain ⟨c, hc, hl⟩ := inv.labels
  exact hl.trans (hc ▸ List.sublist_append_left _ _)

/-- along the walk no id comes up twice (the seat manager holds an id on one seat only) -/
theorem walk_activeIds_nodup (sm : SM.State) (hb : 0 ≤ sm.bb) (hu : SM.IdsUnique sm) :
    ((walkFromBB sm).filterMap (activeIdAt sm)).Nodup :=
  nodup_filterMap (walk_nodup sm.maxSeat sm.bb hb) fun a a' b h h' => by
    obtain ⟨a0, a1, a2, _⟩ := activeIdAt_idAt sm a b h
    obtain ⟨c0, c1, c2, _⟩ := activeIdAt_idAt sm a' b h'
    exact hu a a' b a0 a1 c0 c1 a2 c2

theorem setPositions_cons (p : Player) (t : List Player) (id : Nat) (pos : List String) :
    setPositions (p :: t) id pos =
      if p.id == id then { p with positions := pos } :: t else p :: setPositions t id pos := by
  unfold setPositions
  rw [findIdxAux_eq, findIdxAux_eq, List.findIdx?_cons]
  by_cases hp : (p.id == id) = true
  · rw [if_pos hp, if_pos hp]; rfl
  · rw [if_neg hp, if_neg hp]
    cases t.findIdx? (·.id == id) <;> rfl

/-- writing one label: the player with that id gets it, everybody else is left alone -/
theorem setPositions_eq_map (ps : List Player) (hnd : (ps.map (·.id)).Nodup) (id : Nat) (pos : List String) :
    setPositions ps id pos = ps.map (fun p => if p.id == id then { p with positions := pos } else p) := by
  induction ps with
  | nil => rfl
  | cons p t ih =>
    rw [List.map_cons, List.nodup_cons] at hnd
    rw [setPositions_cons, List.map_cons]
    by_cases hp : (p.id == id) = true
    · -- nobody else has this id
      have : t.map (fun p => if p.id == id then { p with positions := pos } else p) = t :=
        (List.map_congr_left fun q hq => if_neg fun h => hnd.1 (List.mem_map.2
          ⟨q, hq, (eq_of_beq h).trans (eq_of_beq hp).symm⟩)).trans (List.map_id t)
      rw [if_pos hp, if_pos hp, this]
    · rw [if_neg hp, if_neg hp, ih hnd.2]

theorem applyPlan_eq_map (pl : Plan) (ps : List Player) (hnd : (ps.map (·.id)).Nodup) (hpl : (pl.map (·.1)).Nodup) :
    applyPlan ps pl = ps.map (fun p =>
      match pl.find? (fun e => e.1 == p.id) with
      | some e => { p with positions := e.2 }
      | none => p) := by
  induction pl generalizing ps with
  | nil => exact (List.map_id ps).symm
  | cons e t ih =>
    rw [List.map_cons, List.nodup_cons] at hpl
    have hids : (setPositions ps e.1 e.2).map (·.id) = ps.map (·.id) := setPositions_map (·.id) (fun _ _ => rfl) ps e.1 e.2
    show applyPlan (setPositions ps e.1 e.2) t = _
    rw [ih _ (hids ▸ hnd) hpl.2, setPositions_eq_map ps hnd, List.map_map]
    refine List.map_congr_left fun p _ => ?_
    rw [Function.comp, List.find?_cons]
    by_cases hp : (p.id == e.1) = true
    · -- nobody later in the plan has this id
      rw [if_pos hp, show (e.1 == p.id) = true from beq_iff_eq.2 (eq_of_beq hp).symm,
        List.find?_eq_none.2 fun x hx hxe => hpl.1 (List.mem_map.2 ⟨x, hx, (eq_of_beq hxe).trans (eq_of_beq hp)⟩)]
    · rw [if_neg hp, show (e.1 == p.id) = false from beq_false_of_ne fun h => hp (beq_iff_eq.2 h.symm)]

theorem walkFromBB_head (sm : SM.State) (hb0 : 0 ≤ sm.bb) (hbn : sm.bb < sm.maxSeat) : ∃ tl, walkFromBB sm = sm.bb :: tl := by
  unfold walkFromBB
  cases hm : sm.maxSeat with
  | zero => rw [hm] at hbn; exact absurd hbn (Int.not_lt.2 hb0)
  | succ m =>
    rw [List.range_succ_eq_map, List.map_cons]
    exact ⟨_, congrArg (· :: _) ((congrArg (Int.tmod · _) (Int.add_zero _)).trans (SM.tmod_small hb0 (hm ▸ hbn)))⟩

/-- the walk starts on the big-blind seat: if its occupant is dealt in, he is the first in the plan and gets the first
label of the queue -/
theorem labelPlan_head (sm : SM.State) (pl : Plan) (h : labelPlan sm = some pl) (hb0 : 0 ≤ sm.bb) (hbn : sm.bb < sm.maxSeat)
    (id : Nat) (hact : activeIdAt sm sm.bb = some id) (hd : List String)
    (hq : (labelQueue (slotCount sm)).head? = some hd) : pl.head? = some (id, hd) := by
  obtain ⟨q, stop, hf⟩ := labelPlan_some sm pl h
  obtain ⟨tl, hw⟩ := walkFromBB_head sm hb0 hbn
  obtain ⟨rest, hq⟩ := List.head?_eq_some_iff.mp hq
  -- the first step hands the first label to the occupant of the big-blind seat …
  rw [hw, List.foldl_cons, hq, planStep_label sm sm.bb [] hd rest id hact] at hf
  -- … and what is in the plan stays in it
  have hp : [(id, hd)] <+: pl :=
    foldl_some_inv (v := []) (fun _ => rfl) (fun _ st => [(id, hd)] <+: st.1) (fun _ st seat st' hs hv => by
      obtain ⟨_, h1, hm⟩ := planStep_move sm seat _ st' hs
      cases h1
      cases hm with
      | pass | drop => exact hv
      | label => exact hv.trans (List.prefix_append _ _)) hf (List.prefix_refl _)
  obtain ⟨t, ht⟩ := hp
  rw [← ht]; rfl

end TB
