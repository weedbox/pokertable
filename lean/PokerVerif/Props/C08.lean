import PokerVerif.Lemmas.TBCycle
import PokerVerif.Examples.TB
/-!
# C08 — After each hand the table pauses or deals on; it never wedges

Statement: when a hand has been settled and the continue interval has elapsed, the table pauses iff the blind level
is a break or fewer players than the table minimum still have chips; otherwise, provided at least two seated-in
players have chips, the next hand opens as soon as the expected players have signalled they finished viewing the
settlement (or the open-game timeout elapses) — without any further external call and regardless of who busted, who
was sitting out and who arrived meanwhile.

`continueGame` = reset + refresh + the delayed handler `nextMove`.  CT/cash tables past `MaxDuration` (`expired`)
and closed / released tables are excluded explicitly: the code ends auto-open there by design.
-/
namespace TB

/-- `ShouldPause`, spelled out: break level, or fewer players with chips than the table minimum -/
theorem shouldPause_iff (s : State) :
    shouldPause s = true ↔ (s.blind.isBreaking = true ∨ (alivePlayers s).length < s.cfg.minPlayers) := by
  unfold shouldPause; simp

/-- **C08 — pause iff the level is a break or fewer players than the minimum still have chips; otherwise the next
hand is set up** with game count + 1, awaiting the seated-in players with chips (`C08_gate_participants`). -/
theorem C08_pause_iff (s : State) (hr : s.released = false) (hok : (continueGame s false).2 ≠ .failed) :
    ∃ sm ps, refreshPlayers s.sm s.players = some (sm, ps) ∧
      ((continueGame s false).2 = .paused ↔ shouldPause { resetHand s with sm := sm, players := ps } = true) ∧
      ((continueGame s false).2 = .paused → (continueGame s false).1.status = .pausing) ∧
      ((continueGame s false).2 ≠ .paused →
        (continueGame s false).2 = .setUp ∧ (continueGame s false).1.gateCount = s.gameCount + 1 ∧
        (continueGame s false).1.gate.map (fun q => (q.id, q.idx)) = gateParticipants { resetHand s with sm := sm, players := ps } ∧
        (continueGame s false).1.status = .standby) := by
  rcases continueGame_cases s false with ⟨_, h⟩ | ⟨sm, ps, hrp, h⟩
  · rw [h] at hok; exact absurd rfl hok
  · refine ⟨sm, ps, hrp, ?_⟩
    have spec := nextMove_standby { resetHand s with sm := sm, players := ps } rfl hr
    rw [h]
    cases hp : shouldPause { resetHand s with sm := sm, players := ps }
    · rw [spec.2 hp]
      refine ⟨⟨nofun, nofun⟩, nofun, fun _ => ⟨rfl, rfl, ?_, rfl⟩⟩
      show (List.map _ (gateParticipants _)).map _ = _
      rw [List.map_map]; exact List.map_id _
    · rw [spec.1 hp]
      exact ⟨⟨fun _ => rfl, fun _ => rfl⟩, fun _ => rfl, fun hne => absurd rfl hne⟩
/-- who is awaited: exactly the seated-in players with chips, each once, numbered 0,1,2,… -/
theorem C08_gate_participants (s : State) :
    (gateParticipants s).map (·.1) = (s.players.filter (fun p => p.isIn && decide (p.bankroll > 0))).map (·.id) ∧
    (gateParticipants s).map (·.2) = List.range (s.players.filter (fun p => p.isIn && decide (p.bankroll > 0))).length := by
  unfold gateParticipants
  simp only [List.map_map, Function.comp_def]
  constructor
  · exact (List.map_map (g := Player.id) (f := Prod.snd)).symm.trans (congrArg _ (List.map_snd_zip (by simp)))
  · exact List.map_fst_zip (by simp)

/-- **C08 — the gate's callback opens the hand whenever more than one participant is awaited and nothing forbids
it** (not closed / released, no unsettled hand, blinds set and not a break): the outcome is then decided by the seat
manager alone — `opened` iff positions could be initialised / rotated (C04: at least two dealt in). -/
theorem C08_fire_reaches_positions (s : State) (ch : Option Int) (ok : Bool)
    (hg : 1 < s.gate.length) (hr : s.released = false) (hc : s.status ≠ .closed) (hh : s.hasGame = false)
    (hs : s.blind.isSet = true) (hb : s.blind.isBreaking = false) :
    gateFire s ch ok = openCore (gateReady s) ch ok := by
  rw [gateFire, (openGuard_go (gateReady s)).mpr ⟨by rw [gateReady, List.length_map]; exact hg, hr, hc, hh, hs, hb⟩]

/-- the statuses `tableGameOpen`'s retry loop takes for "a hand is already running" (regenerated from
table_engine_stage.go): opened, playing, settled — `TB.inHandStatus`; in particular not `standby`, the status between hands -/
theorem C08_retry_statuses_fact : Facts.retryRunningStatuses =
    ["TableStateStatus_TableGameOpened", "TableStateStatus_TableGamePlaying", "TableStateStatus_TableGameSettled",
     "isGameRunning := funk.Contains(gameStartingStatuses, te.table.State.Status)"] := rfl

/-- **C08 — the retry loop tries again in earnest**: 3 s after a refused attempt, unless the table shows a hand by then,
the table was closed or released meanwhile,
the blinds are still unset or a break has begun, the turn is `openGame` + `startGame` exactly as on the first attempt
(between hands too: `standby` is not a hand status) — the outcome is again the seat manager's alone. -/
theorem C08_retry_reaches_positions (s : State) (ch : Option Int) (ok : Bool)
    (hr : s.released = false) (hc : s.status ≠ .closed)
    (hh : inHandStatus s.status = false) (hs : s.blind.isSet = true) (hb : s.blind.isBreaking = false) :
    retryOpen s ch ok = openCore s ch ok := by
  unfold retryOpen
  simp [hr, hc, hh, hs, hb]

example : inHandStatus .standby = false ∧ inHandStatus .created = false ∧ inHandStatus .pausing = false := by decide +kernel

/-- … and when the seat manager refuses, nothing but its waiting flags has changed (the engine retries) -/
theorem C08_refused_by_positions (s : State) (ch : Option Int) (ok : Bool)
    (h : (openCore s ch ok).2 = .refused)
    (hact : ∀ sm, s.players.mapM (fun p => (SM.isActive sm p.id).map (fun a => { p with participated := a })) ≠ none) :
    ((if !s.sm.isInit then SM.init s.sm ch else SM.rotate s.sm).2 ≠ .ok) := by
  intro hokk
  rcases openCore_cases s ch ok with ⟨_, ⟨_, hm⟩ | h'⟩ | ⟨_, _, _, _, _, _, _, ⟨_, h' | h'⟩ | h'⟩
  · exact hact _ (hm hokk)
  all_goals rw [h'] at h; cases h

-- non-vacuity: a settled two-player table continues to a set-up gate; with one bust it pauses
example :
    let t := (gateFire exTable (some 0) true).1
    let t1 := (settle t [(0, 10), (1, -10)]).1
    let t2 := (settle t [(0, 500), (1, -500)]).1
    (continueGame t1 false).2 = .setUp ∧ (continueGame t1 false).1.gateCount = 2 ∧
    (continueGame t2 false).2 = .paused := by decide +kernel

end TB
