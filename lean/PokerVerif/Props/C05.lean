import PokerVerif.Lemmas.TBOpen
import PokerVerif.Lemmas.SMRotate
import PokerVerif.Lemmas.SMAssign
/-!
# C05 — Exactly the eligible players are dealt in; newcomers wait for the blind

Statement: a hand deals in exactly the players who are seated-in, have chips and are not newcomers waiting for the
big blind, and never opens with fewer than two such players.  A player dealt into one hand who still has chips and
stays seated is dealt into the next; a busted player who re-buys is eligible again on the same terms as a newcomer,
and a seated-in player with chips never misses more than three hands in a row.

Proved here (for every state / seat map): who is dealt in at an open; at least two; the has-chips refresh after a
hand and on re-buy / add-on; a dealt-in player stays dealt in through a rotation.  The "same terms as a newcomer" clause for
re-buyers is proved for ring-after-ring rotations (`C05_rebuy_same_terms_ring_partial`) and *fails* when the rotation
yields a heads-up hand (finding D25, witness `C05_rebuy_same_terms_fails_on_witness`, monitored as
`C05.re-buyer-not-on-the-same-terms-as-a-newcomer…`).  The waiting flag of a newly seated player and the bound of
three missed hands are checked by the monitors on every run (`C05.newcomer-waiting-flag-wrong`,
`C05.seated-in-player-with-chips-missed-more-than-three-hands`) and are not theorems yet (DESIGN.md, C05).
-/
namespace TB

/-- **C05 — a hand deals in exactly the players the seat manager calls active** (seated-in, has chips, not waiting
for the big blind — `SM.SeatPlayer.active`), for every player of the table, and changes nothing else about them. -/
theorem C05_dealt_in_iff (s : State) (ch : Option Int) (ok : Bool) (h : (gateFire s ch ok).2 = .opened) :
    (gateFire s ch ok).1.players.map (fun p => (p.id, p.participated)) =
      s.players.map (fun p => (p.id, (SM.isActive (gateFire s ch ok).1.sm p.id).getD false)) ∧
    (gateFire s ch ok).1.players.map (fun p => (p.id, p.seat, p.bankroll, p.isIn)) =
      s.players.map (fun p => (p.id, p.seat, p.bankroll, p.isIn)) := by
  obtain ⟨_, heq⟩ := gateFire_opened s ch ok h
  rw [heq] at h ⊢
  obtain ⟨_, h1, h2, h3⟩ := openCore_dealt_in _ _ _ h
  rw [h1]
  exact ⟨h2, h3⟩

/-- what "active" means -/
theorem C05_active_means (sm : SM.State) (id : Nat) (h : SM.hasPlayer sm id = true) :
    SM.isActive sm id = some (match sm.seats (SM.seatOf sm id) with
      | some p => p.isIn && !p.between && p.hasChips | none => false) := by
  unfold SM.isActive SM.activeAt SM.SeatPlayer.active
  simp only [h, Bool.not_true, Bool.false_eq_true, if_false]
  congr 1

/-- **C05 — never fewer than two**: the seat manager accepts positions only with two or more active players, and a
hand opens only when it did. -/
theorem C05_min_two (s : State) (ch : Option Int) (ok : Bool) (h : (gateFire s ch ok).2 = .opened) :
    2 ≤ SM.activeCount (gateFire s ch ok).1.sm.maxSeat (gateFire s ch ok).1.sm.seats := by
  obtain ⟨_, heq⟩ := gateFire_opened s ch ok h
  rw [heq] at h ⊢
  obtain ⟨hr, h1, _⟩ := openCore_dealt_in _ _ _ h
  rw [h1]
  by_cases hi : (gateReady s).sm.isInit = true
  · simp only [hi, Bool.not_true, Bool.false_eq_true, if_false] at hr ⊢
    exact SM.rotate_ok_two _ hr
  · simp only [hi, Bool.not_false, if_true] at hr ⊢
    exact SM.init_ok_two _ _ hr

end TB

namespace SM

/-- **C05 — a player dealt into one hand who still has chips and stays seated is dealt into the next**: an active
seat stays active through `rotatePositions` (the waiting flag is re-evaluated only for non-active players). -/
theorem C05_stays_in (st : State) (i : Int) (hact : activeAt st.seats i = true) :
    activeAt (rotateDefault st).1.seats i = true := by
  have h1 : activeAt (seats1 st) i = true := reflag_keeps_active _ _ _ _ _ hact
  rcases rotateDefault_seats st with e | e <;> rw [e]
  · exact h1
  · exact reflag_keeps_active _ _ _ _ _ h1

/-- **C05 (partial) — a busted player who re-buys is eligible on the same terms as a newcomer**, ring hand after ring
hand: after an accepted rotation with three or more dealt in that does not come from a heads-up hand, every occupant
who was not active (busted, sitting out, still waiting) carries exactly the waiting flag `AssignSeats` would give a
newcomer seated there now — `isBetween` of the *published* button and big-blind seats. A later re-buy only sets
`hasChips` (`C05_set_chips`), so the re-buyer then waits, or not, exactly like a newcomer on that seat. -/
theorem C05_rebuy_same_terms_ring_partial (st : State) (h3 : 3 ≤ activeCount st.maxSeat (seats1 st)) (hu : isHU st = false)
    (i : Int) (p : SeatPlayer) (hp : st.seats i = some p) (hna : p.active = false) :
    ∃ q, (rotateDefault st).1.seats i = some q ∧ q.id = p.id ∧
      q.between = isBetween st.maxSeat (rotateDefault st).1.dealer (rotateDefault st).1.bb i := by
  rcases rotateDefault_cases st with ⟨h, _⟩ | ⟨_, ss, d, s, e, hc⟩
  · exact absurd (Nat.le_of_succ_le h3) (Nat.not_le.2 h)
  rcases hc with ⟨h, _⟩ | ⟨_, _, rfl, rfl, rfl⟩ | ⟨_, hu', _⟩
  · exact absurd (h ▸ h3) (by decide)
  · rw [e]
    refine ⟨{ p with between := isBetween st.maxSeat st.sb (nextAlive st st.bb) i }, ?_, rfl, rfl⟩
    show seats1 st i = _
    rw [seats1, reflag_apply, hp, Option.map_some, if_neg (Bool.eq_false_iff.1 hna)]
  · rw [hu] at hu'; cases hu'

/-- D25: the full clause fails when the rotation yields a heads-up hand: the waiting flags are computed against the
*tentative* button (the previous small-blind seat) while the published button is the seat after the big blind.
6 seats, previous hand D=1 SB=3 BB=5; seats 1 and 3 busted, seats 4 and 5 play on. -/
def witnessD25 : State :=
  { maxSeat := 6, rule := .default, isInit := true, dealer := 1, sb := 3, bb := 5,
    seats := seatsOfList [none,
      some { id := 4, isIn := true, between := false, hasChips := false }, none,
      some { id := 3, isIn := true, between := false, hasChips := false },
      some { id := 5, isIn := true, between := false, hasChips := true },
      some { id := 1, isIn := true, between := false, hasChips := true }] }

/-- after the rotation (D = SB = 5, BB = 4) the busted player on seat 3 is flagged "not waiting", while a newcomer
given seat 2 at that moment is flagged "waiting" and so would be one given seat 3: the re-buyer of seat 3 is dealt into
the next hand at once, the newcomer is not -/
theorem C05_rebuy_same_terms_fails_on_witness :
    (rotateDefault witnessD25).2 = .ok ∧
    ((rotateDefault witnessD25).1.dealer, (rotateDefault witnessD25).1.sb, (rotateDefault witnessD25).1.bb) = (5, 5, 4) ∧
    ((rotateDefault witnessD25).1.seats 3).map (·.between) = some false ∧
    isBetween 6 (rotateDefault witnessD25).1.dealer (rotateDefault witnessD25).1.bb 3 = true ∧
    (((place (rotateDefault witnessD25).1 9 2).seats 2).map (·.between)) = some true := by decide +kernel

/-- has-chips refresh (continueGame, re-buy, add-on): `UpdatePlayerHasChips` sets exactly that player's flag -/
theorem C05_set_chips (st : State) (id : Nat) (b : Bool) (h : hasPlayer st id = true) :
    (setChips st id b).2 = .ok ∧
    (setChips st id b).1.seats (seatOf st id) = (st.seats (seatOf st id)).map (fun p => { p with hasChips := b }) ∧
    ∀ j, j ≠ seatOf st id → (setChips st id b).1.seats j = st.seats j := by
  rcases setChips_cases st id b with ⟨h', _⟩ | ⟨_, e⟩
  · rw [h] at h'; cases h'
  rw [e]
  refine ⟨rfl, ?_, fun j hj => ?_⟩
  · exact (updAt_apply ..).trans (if_pos rfl)
  · exact (updAt_apply ..).trans (if_neg hj)

end SM
