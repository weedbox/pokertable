import PokerVerif.Lemmas.TBIndex
/-!
# Seat bookkeeping of the table (`SeatMap` ↔ `PlayerStates`) under arrivals and departures

`MapTight m ps`: the seat map and the player list describe the same seating (`MapWF`) and every entry that names
nobody is `-1`.  Appending a player on a free seat (`batchAddPlayers`) and rebuilding the map for the players that
stay (`calcLeavePlayers` / `batchRemovePlayers`) both keep it: they run the same seating loop (`appendPlayers_eq`), which
keeps the map tight while the seats differ (`rebuild_go`) and fails only on a seat outside the map (`rebuild_go_some`).
-/
namespace TB

def MapTight (m : List Int) (ps : List Player) : Prop :=
  MapWF m ps ∧ ∀ seat pi, seatMapGet m seat = some pi → pi < 0 → pi = -1

theorem getElem?_of_map_eq {β : Type} (f : Player → β) (ps ps' : List Player) (h : ps'.map f = ps.map f) (i : Nat) :
    (ps'[i]?).map f = (ps[i]?).map f := by
  rw [← List.getElem?_map, ← List.getElem?_map, h]

theorem getElem?_some_of_map_eq {β : Type} {f : Player → β} {ps ps' : List Player} (h : ps'.map f = ps.map f) {i : Nat}
    {p : Player} (hp : ps[i]? = some p) : ∃ p', ps'[i]? = some p' ∧ f p' = f p :=
  Option.map_eq_some_iff.mp ((getElem?_of_map_eq f ps ps' h i).trans (congrArg (Option.map f) hp))

/-- the bookkeeping looks at nothing of a player but his seat -/
theorem MapWF.of_seats (m : List Int) (ps ps' : List Player) (h : ps'.map (·.seat) = ps.map (·.seat))
    (wf : MapWF m ps) : MapWF m ps' := by
  constructor
  · intro seat pi hg h0
    obtain ⟨p, hp, hs⟩ := wf.entries seat pi hg h0
    obtain ⟨p', hp', e⟩ := getElem?_some_of_map_eq h hp
    exact ⟨p', hp', e.trans hs⟩
  · intro i p' hp'
    obtain ⟨p, hp, e⟩ := getElem?_some_of_map_eq h.symm hp'
    exact e ▸ wf.players i p hp

theorem seatMapGet_set (m : List Int) (seat other v : Int) (h0 : 0 ≤ seat) (hl : seat < m.length) :
    seatMapGet (m.set seat.toNat v) other = if other = seat then some v else seatMapGet m other := by
  unfold seatMapGet
  rw [List.length_set, List.getElem?_set]
  by_cases h : other = seat
  · rw [if_pos h, h, if_pos ⟨h0, hl⟩, if_pos rfl, if_pos ((Int.toNat_lt h0).mpr hl)]
  · rw [if_neg h]
    by_cases hc : 0 ≤ other ∧ other < m.length
    · rw [if_pos hc, if_pos hc,
        if_neg fun e => h (by rw [← Int.toNat_of_nonneg hc.1, ← e, Int.toNat_of_nonneg h0])]
    · rw [if_neg hc, if_neg hc]

theorem getElem?_concat_eq_some {α : Type} {l : List α} {a b : α} {i : Nat} :
    (l ++ [a])[i]? = some b ↔ l[i]? = some b ∨ (i = l.length ∧ a = b) := by
  rcases Nat.lt_trichotomy i l.length with h | h | h
  · rw [List.getElem?_append_left h]
    exact ⟨.inl, fun h' => h'.resolve_right fun h' => absurd h'.1 (Nat.ne_of_lt h)⟩
  · subst h
    rw [List.getElem?_concat_length, List.getElem?_eq_none (Nat.le_refl _)]
    exact ⟨fun h' => .inr ⟨rfl, Option.some.inj h'⟩, fun h' => h'.elim nofun fun h' => congrArg some h'.2⟩
  · rw [List.getElem?_eq_none (by rw [List.length_append]; exact h), List.getElem?_eq_none (Nat.le_of_lt h)]
    exact ⟨nofun, fun h' => h'.elim nofun fun h' => absurd h'.1 (Nat.ne_of_gt h)⟩

theorem MapWF.not_free {m : List Int} {ps : List Player} (w : MapWF m ps) {p : Player} (hp : p ∈ ps) :
    seatMapGet m p.seat ≠ some (-1) := by
  obtain ⟨i, hi⟩ := List.mem_iff_getElem?.mp hp
  rw [w.players i p hi]
  exact fun h => absurd (Option.some.inj h ▸ Int.natCast_nonneg i : (0 : Int) ≤ -1) (by decide)

theorem MapTight.free (m : List Int) (ps : List Player) (h : MapTight m ps) (seat : Int) (h0 : 0 ≤ seat)
    (hl : seat < m.length) (hno : ∀ p ∈ ps, p.seat ≠ seat) : seatMapGet m seat = some (-1) := by
  have hs := seatMapGet_isSome m seat h0 hl
  cases hg : seatMapGet m seat with
  | none => rw [hg] at hs; cases hs
  | some pi =>
    by_cases hp : 0 ≤ pi
    · obtain ⟨p, hp1, hp2⟩ := h.1.entries seat pi hg hp
      exact absurd hp2 (hno p (List.mem_of_getElem? hp1))
    · rw [h.2 seat pi hg (Int.not_le.mp hp)]

theorem MapTight.append (m : List Int) (ps : List Player) (h : MapTight m ps) (p : Player) (h0 : 0 ≤ p.seat)
    (hl : p.seat < m.length) (hfree : seatMapGet m p.seat = some (-1)) :
    MapTight (m.set p.seat.toNat ps.length) (ps ++ [p]) := by
  refine ⟨⟨fun seat pi hg hpi => ?_, fun i q hq => ?_⟩, fun seat pi hg hneg => ?_⟩
  · rw [seatMapGet_set m p.seat seat _ h0 hl] at hg
    by_cases hs : seat = p.seat
    · rw [if_pos hs] at hg
      exact ⟨p, by rw [← Option.some.inj hg, Int.toNat_natCast, List.getElem?_concat_length], hs.symm⟩
    · rw [if_neg hs] at hg
      obtain ⟨q, hq1, hq2⟩ := h.1.entries seat pi hg hpi
      exact ⟨q, getElem?_concat_eq_some.mpr (.inl hq1), hq2⟩
  · rw [seatMapGet_set m p.seat q.seat _ h0 hl]
    rcases getElem?_concat_eq_some.mp hq with hq | ⟨rfl, rfl⟩
    · rw [if_neg fun heq : q.seat = p.seat => h.1.not_free (List.mem_of_getElem? hq) (heq ▸ hfree)]
      exact h.1.players i q hq
    · rw [if_pos rfl]
  · rw [seatMapGet_set m p.seat seat _ h0 hl] at hg
    by_cases hs : seat = p.seat
    · rw [if_pos hs] at hg
      exact absurd (Option.some.inj hg ▸ hneg) (Int.not_lt.mpr (Int.natCast_nonneg _))
    · rw [if_neg hs] at hg
      exact h.2 seat pi hg hneg

theorem seatMapGet_default (n : Nat) (seat v : Int) (h : seatMapGet (defaultSeatMap n) seat = some v) : v = -1 := by
  unfold seatMapGet defaultSeatMap at h
  split at h
  · obtain ⟨hlt, hv⟩ := List.getElem?_eq_some_iff.mp h
    rw [← hv, List.getElem_replicate]
  · cases h

theorem mapTight_default (n : Nat) : MapTight (defaultSeatMap n) [] :=
  ⟨⟨fun seat pi hg hpi => absurd (seatMapGet_default n seat pi hg) (by omega), fun i p hp => by simp at hp⟩,
    fun seat pi hg _ => seatMapGet_default n seat pi hg⟩

/-- the seating loop shared by `calcLeavePlayers` (rebuild for those who stay) and `batchAddPlayers` (append the newcomers,
`appendPlayers_eq`): seating `rest` one after the other behind `done`, all on pairwise different seats, keeps the map tight -/
theorem rebuild_go (rest done : List Player) (m : List Int) (hm : MapTight m done)
    (hpair : (done ++ rest).Pairwise (fun a b => a.seat ≠ b.seat)) (m' : List Int)
    (h : rebuildSeatMap.go rest done.length m = some m') :
    MapTight m' (done ++ rest) ∧ m'.length = m.length := by
  induction rest generalizing done m with
  | nil => rw [← Option.some.inj h, List.append_nil]; exact ⟨hm, rfl⟩
  | cons p t ih =>
    unfold rebuildSeatMap.go at h
    split at h
    · rename_i hc
      have hfree := MapTight.free m done hm p.seat hc.1 hc.2
        fun q hq => (List.pairwise_append.mp hpair).2.2 q hq p List.mem_cons_self
      rw [List.append_cons] at hpair ⊢
      have := ih (done ++ [p]) _ (MapTight.append m done hm p hc.1 hc.2 hfree) hpair (by simpa using h)
      simpa using this
    · cases h

theorem rebuild_go_some (rest : List Player) (k : Nat) (m : List Int)
    (h : ∀ p ∈ rest, 0 ≤ p.seat ∧ p.seat < m.length) : rebuildSeatMap.go rest k m ≠ none := by
  induction rest generalizing k m with
  | nil => exact nofun
  | cons p t ih =>
    rw [rebuildSeatMap.go, if_pos (h p List.mem_cons_self)]
    exact ih _ _ fun q hq => by rw [List.length_set]; exact h q (List.mem_cons_of_mem _ hq)

theorem rebuild_tight (n : Nat) (keep : List Player) (hpair : keep.Pairwise (fun a b => a.seat ≠ b.seat))
    (m' : List Int) (h : rebuildSeatMap n keep = some m') : MapTight m' keep ∧ m'.length = n := by
  have := rebuild_go keep [] (defaultSeatMap n) (mapTight_default n) hpair m' h
  simpa [defaultSeatMap] using this

theorem MapTight.seats_distinct (m : List Int) (ps : List Player) (h : MapTight m ps) :
    ps.Pairwise (fun a b => a.seat ≠ b.seat) := by
  rw [List.pairwise_iff_getElem]
  intro i j hi hj hij heq
  have h1 := h.1.players i ps[i] (List.getElem?_eq_getElem hi)
  rw [heq, h.1.players j ps[j] (List.getElem?_eq_getElem hj)] at h1
  exact Nat.ne_of_gt hij (Int.ofNat.inj (Option.some.inj h1))

/-- `batchAddPlayers` seats the newcomers by the same loop as `calcLeavePlayers` (its extra test `seat = -1` is subsumed by
the bounds check) -/
theorem appendPlayers_eq (sm : SM.State) (js : List Join) (ps : List Player) (m : List Int) :
    appendPlayers sm js ps m =
      (rebuildSeatMap.go (js.map fun j => { id := j.id, seat := SM.seatOf sm j.id, bankroll := j.chips }) ps.length m).map
        fun m' => (ps ++ js.map fun j => { id := j.id, seat := SM.seatOf sm j.id, bankroll := j.chips }, m') := by
  fun_induction appendPlayers sm js ps m
  case case1 => rw [List.map_nil, List.append_nil]; rfl
  case case2 j t ps m seat hs =>
    rw [List.map_cons, rebuildSeatMap.go, if_neg (fun h => absurd (hs ▸ h.1 : (0 : Int) ≤ -1) (by decide))]; rfl
  case case3 j t ps m seat _ hr ih =>
    rw [ih, List.map_cons, rebuildSeatMap.go, if_pos hr, List.length_append, List.append_assoc]; rfl
  case case4 j t ps m seat _ hr => rw [List.map_cons, rebuildSeatMap.go, if_neg hr]; rfl

/-- the appending loop of `batchAddPlayers`: every new player's seat (as the seat manager reports it) is shown free by
the table and the new seats are pairwise different ⇒ the result is tight -/
theorem appendPlayers_tight (sm : SM.State) (js : List Join) (ps : List Player) (m : List Int) (h : MapTight m ps)
    (hfree : ∀ j ∈ js, seatMapGet m (SM.seatOf sm j.id) = some (-1))
    (hpair : js.Pairwise (fun a b => SM.seatOf sm a.id ≠ SM.seatOf sm b.id))
    (ps' : List Player) (m' : List Int) (hap : appendPlayers sm js ps m = some (ps', m')) :
    MapTight m' ps' ∧ m'.length = m.length := by
  rw [appendPlayers_eq, Option.map_eq_some_iff] at hap
  obtain ⟨m'', hgo, heq⟩ := hap
  obtain ⟨rfl, rfl⟩ := Prod.mk.inj heq
  refine rebuild_go _ ps m h ?_ _ hgo
  refine List.pairwise_append.mpr ⟨MapTight.seats_distinct m ps h, List.pairwise_map.mpr hpair, ?_⟩
  intro a ha b hb heq
  obtain ⟨j, hj, rfl⟩ := List.mem_map.mp hb
  exact h.1.not_free ha (heq ▸ hfree j hj)

/-- the list `batchAddPlayers` builds: the newcomers behind the old list, each on the seat the seat manager reports -/
theorem appendPlayers_players {sm : SM.State} {js : List Join} {ps ps' : List Player} {m m' : List Int}
    (h : appendPlayers sm js ps m = some (ps', m')) :
    ps' = ps ++ js.map fun j => { id := j.id, seat := SM.seatOf sm j.id, bankroll := j.chips } := by
  rw [appendPlayers_eq, Option.map_eq_some_iff] at h
  obtain ⟨_, _, heq⟩ := h
  exact (Prod.mk.inj heq).1.symm

theorem appendPlayers_ne_none (sm : SM.State) (js : List Join) (ps : List Player) (m : List Int)
    (h : ∀ j ∈ js, 0 ≤ SM.seatOf sm j.id ∧ SM.seatOf sm j.id < m.length) : appendPlayers sm js ps m ≠ none := by
  rw [appendPlayers_eq, Ne, Option.map_eq_none_iff]
  refine rebuild_go_some _ _ _ fun p hp => ?_
  obtain ⟨j, hj, rfl⟩ := List.mem_map.mp hp
  exact h j hj

end TB
