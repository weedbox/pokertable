import PokerVerif.HD
/-! The hand state on which the non-vacuity examples of the hand-level properties are evaluated. -/
namespace HD

-- a three-player hand at a preflop decision point
def exView : View :=
  { stamp := 7, gid := 42, event := "RoundStarted", round := "preflop", cur := 0, raiser := 2, wager := 20, mini := 20, prev := 20,
    ante := 0, bDealer := 0, bSB := 10, bBB := 20, hasResult := false,
    players := [{ idx := 0, positions := ["dealer"], acted := false, did := "", fold := false, allowed := ["allin", "fold", "call", "raise"],
                  bankroll := 500, init := 500, stack := 500, wager := 0, pot := 0 },
                { idx := 1, positions := ["sb"], acted := false, did := "", fold := false, allowed := [], bankroll := 300, init := 300, stack := 290, wager := 10, pot := 0 },
                { idx := 2, positions := ["bb"], acted := false, did := "", fold := false, allowed := [], bankroll := 200, init := 200, stack := 180, wager := 20, pot := 0 }] }
def exState : State :=
  { players := [{ id := 11, seat := 4 }, { id := 12, seat := 0 }, { id := 13, seat := 2 }, { id := 14, seat := 7 }],
    hand := [12, 13, 11], gc := 3, actionTime := 7, playing := true, view := some exView, last := none }

end HD
