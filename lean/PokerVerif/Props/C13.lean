import PokerVerif.Lemmas.HDBasic
import PokerVerif.Examples.HD
/-!
# C13 — A failing game backend never corrupts a hand

Statement: if the game backend fails while applying a player's action, the caller gets the error, the table and the
hand are exactly as before and the same action can be submitted again; however many such failures and retries a hand
suffers, its course and result are exactly those determined by the successfully applied steps alone.  A backend
failure in a step the engine performs by itself (collecting antes or blinds, readiness, next round) is reported through
the table error callback rather than lost.

The backend is an oracle of the model: each submission carries what the backend did (`Oracle.err` = it failed).
Theorems quantify over every state and every sequence of submissions with every ok/fail pattern.  The last sentence
(internal steps) is about `game.go`'s `onGameErrorUpdated` calls; it is exercised by the fault-injecting harness
(every injected failure of an internal step must show up on `OnTableErrorUpdated`) and is not modelled beyond that.
-/
namespace HD

/-- a submission with what the backend did with it.  C13 is about submissions alone; the run over all hand-level events
(states reaching the table, extensions, the reset) is `HD.runEv` (Lemmas/HDStats). -/
structure Sub where
  id : Nat
  kind : String
  arg : Int
  oracle : Oracle

def run (s : State) (subs : List Sub) : State := subs.foldl (fun st a => (act st a.id a.kind a.arg a.oracle).1) s

/-- the submissions that were accepted, in order -/
def acceptedOf (s : State) : List Sub → List Sub
  | [] => []
  | a :: t =>
    let r := act s a.id a.kind a.arg a.oracle
    if r.2 = .ok then a :: acceptedOf r.1 t else acceptedOf r.1 t

/-- **C13 — the caller gets the error and nothing changed**: a backend failure on a player's action yields an
error and leaves table and hand exactly as before. -/
theorem C13_error_returned (s : State) (id : Nat) (kind : String) (arg : Int) (h : ¬(kind = "ready" ∨ kind = "pay")) :
    (act s id kind arg .err).2 ≠ .ok ∧ (act s id kind arg .err).1 = s := by
  obtain ⟨e, he⟩ | ⟨_, _, _, _, _, _, _, _, _, _, _, hw⟩ := act_cases s id kind arg .err
  · rw [he]; exact ⟨nofun, rfl⟩
  · obtain ⟨_, _, _, _, ho, _⟩ := hw h; cases ho

/-- **C13 — the same action can be submitted again**: after a failed attempt the retry meets exactly the state the
first attempt met, so it is accepted iff the backend now accepts it. -/
theorem C13_retry (s : State) (id : Nat) (kind : String) (arg : Int) (h : ¬(kind = "ready" ∨ kind = "pay")) (o : Oracle) :
    act (act s id kind arg .err).1 id kind arg o = act s id kind arg o := by
  rw [(C13_error_returned s id kind arg h).2]

/-- a refused submission is skipped by `acceptedOf` as if it had not been made -/
theorem acceptedOf_cons (s : State) (a : Sub) (t : List Sub) :
    acceptedOf s (a :: t) =
      if (act s a.id a.kind a.arg a.oracle).2 = .ok then a :: acceptedOf (act s a.id a.kind a.arg a.oracle).1 t
      else acceptedOf s t := by
  by_cases h : (act s a.id a.kind a.arg a.oracle).2 = .ok
  · simp only [acceptedOf, h, if_true]
  · simp only [acceptedOf, h, if_false, act_refused h]

/-- **C13 — erasure**: however many failures (and refusals) a sequence of submissions contains, the final table and
hand are those determined by the accepted submissions alone. -/
theorem C13_erasure (s : State) (subs : List Sub) : run s subs = run s (acceptedOf s subs) := by
  induction subs generalizing s with
  | nil => rfl
  | cons a t ih =>
    rw [acceptedOf_cons]
    split
    · exact ih _
    · next h => rw [← ih s]; show run (act s a.id a.kind a.arg a.oracle).1 t = _; rw [act_refused h]

/-- every submission kept by `acceptedOf` is accepted again when the failures are left out (same states) -/
theorem C13_accepted_replay (s : State) (subs : List Sub) : acceptedOf s (acceptedOf s subs) = acceptedOf s subs := by
  induction subs generalizing s with
  | nil => rfl
  | cons a t ih =>
    rw [acceptedOf_cons]
    split
    · next h => rw [acceptedOf_cons, if_pos h, ih]
    · exact ih s

-- non-vacuity: a failure, a retry, an out-of-turn probe in between
example : let subs : List Sub := [⟨12, "call", 0, .err⟩, ⟨13, "fold", 0, .none⟩, ⟨12, "call", 0, .ok 2⟩]
    (acceptedOf exState subs).length = 1 ∧ (run exState subs).log = [(12, "call", "preflop")] := by decide +kernel

end HD
