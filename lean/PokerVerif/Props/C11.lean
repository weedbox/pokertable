import PokerVerif.Lemmas.HDBasic
import PokerVerif.Examples.HD
/-!
# C11 — A hand advances exactly when everyone asked has answered, and always finishes

Statement: at each readiness, ante and blind collection point the hand waits until every player it asked has responded
(or the response timeout passes) and then moves on by itself; it asks all dealt-in players for readiness and ante but
only the blind positions for blinds; betting rounds follow each other without any external trigger.  If every
participant responds, every opened hand reaches settlement in finitely many steps with a result entry for each
participant.

Proved here, about `HD.asked` and the request group `HD.RG` (the model of `onReadyRequested` / `onAnteRequested` /
`onBlindsRequested` and the ReadyGroup they arm): who is asked at each point; the group call is issued exactly when
every asked player has answered (or on timeout), once.  (*partial*: the 17 s timer is an event, not a clock; that
pokerface reaches `GameClosed` after finitely many accepted steps is a contract on the external engine — the harness
answers every request in every hand of every run, counts backend calls per hand and reports a hand that does not
settle as `C11.hand-did-not-reach-settlement`.)  An ante-only structure (all blinds 0) leaves the blinds request with
nobody to ask and nobody to complete it: `C11_no_progress_on_witness` (D17, a configuration edge, recorded).
-/
namespace HD

def allIdx (v : View) : List Nat := v.players.map (·.idx)

/-- **C11 — readiness and antes are asked of all dealt-in players** -/
theorem C11_asked_all (v : View) :
    (v.event = "ReadyRequested" → asked v = allIdx v) ∧
    (v.event = "AnteRequested" → v.ante ≠ 0 → asked v = allIdx v) ∧
    (v.event = "AnteRequested" → v.ante = 0 → asked v = []) := by
  unfold asked
  refine ⟨fun h => ?_, fun h ha => ?_, fun h ha => ?_⟩ <;> rw [h]
  · exact if_pos (beq_self_eq_true _)
  · rw [if_neg requestEvents_ne.1, if_pos (beq_self_eq_true _), if_neg (by simpa using ha)]; rfl
  · rw [if_neg requestEvents_ne.1, if_pos (beq_self_eq_true _), if_pos (by simpa using ha)]

/-- **C11 — blinds are asked only of the blind positions**: exactly the players holding a position whose blind is
positive (big blind, small blind, dealer blind) -/
theorem C11_asked_blinds (v : View) (h : v.event = "BlindsRequested") (i : Nat) :
    i ∈ asked v ↔ ∃ p ∈ v.players, p.idx = i ∧
      ((0 < v.bBB ∧ p.positions.contains "bb" = true) ∨ (0 < v.bSB ∧ p.positions.contains "sb" = true) ∨
       (0 < v.bDealer ∧ p.positions.contains "dealer" = true)) := by
  unfold asked
  rw [h, if_neg requestEvents_ne.2.1, if_neg requestEvents_ne.2.2, if_pos (beq_self_eq_true _)]
  simp only [List.mem_map, List.mem_filter, Bool.or_eq_true, Bool.and_eq_true, decide_eq_true_eq, or_assoc, and_assoc]
  exact exists_congr fun p => and_congr_right fun _ => and_comm

/-- which group call completes which request -/
theorem C11_group_call (v : View) :
    (v.event = "ReadyRequested" → groupCall v = "readyforall") ∧ (v.event = "AnteRequested" → groupCall v = "payante") ∧
    (v.event = "BlindsRequested" → groupCall v = "payblinds") := by
  unfold groupCall
  refine ⟨fun h => ?_, fun h => ?_, fun h => ?_⟩ <;> rw [h]
  · exact if_pos (beq_self_eq_true _)
  · rw [if_neg requestEvents_ne.1]; exact if_pos (beq_self_eq_true _)
  · rw [if_neg requestEvents_ne.2.1, if_neg requestEvents_ne.2.2]; exact if_pos (beq_self_eq_true _)

/-! The gate.  One answer, characterised by what it does to each field; `C11_gate` is then one induction over the
answers. -/

theorem rg_awaited (g : RG) (i : Nat) : (g.answer i).awaited = g.awaited := by
  fun_cases RG.answer g i <;> rfl

theorem rg_answered_mem (g : RG) (i k : Nat) : k ∈ (g.answer i).answered ↔ (k ∈ g.answered ∨ (k = i ∧ i ∈ g.awaited)) := by
  fun_cases RG.answer g i
  case case3 hc =>
    have hc : i ∈ g.awaited → i ∈ g.answered := by simpa using hc
    exact ⟨.inl, fun h => h.elim (fun h => h) fun ⟨h, hi⟩ => h ▸ hc hi⟩
  all_goals
    next hc _ _ =>
    have hi : i ∈ g.awaited := (List.contains_iff_mem ..).1 (Bool.and_eq_true_iff.1 hc).1
    show k ∈ g.answered ++ [i] ↔ _
    rw [List.mem_append, List.mem_singleton, and_iff_left hi]

/-- the completion has been spawned iff somebody is asked and every asked player has answered -/
def RGInv (g : RG) : Prop := g.done = true ↔ (g.awaited ≠ [] ∧ ∀ i ∈ g.awaited, i ∈ g.answered)

theorem rg_answer_inv (g : RG) (i : Nat) (h : RGInv g) : RGInv (g.answer i) := by
  have hall : (g.awaited.all fun k => (g.answered ++ [i]).contains k) = true ↔ ∀ k ∈ g.awaited, k ∈ g.answered ++ [i] := by
    simp only [List.all_eq_true, List.contains_iff_mem]
  have hne : (g.awaited.contains i && !g.answered.contains i) = true → g.awaited ≠ [] := fun hc =>
    List.ne_nil_of_mem ((List.contains_iff_mem ..).1 (Bool.and_eq_true_iff.1 hc).1)
  fun_cases RG.answer g i
  case case1 hc g1 hd => exact ⟨fun _ => ⟨hne hc, hall.1 (Bool.and_eq_true_iff.1 hd).1⟩, fun _ => rfl⟩
  case case2 hc g1 hd =>
    -- `done` stays as it was: it was set already, or somebody has still not answered
    exact ⟨fun hdone => ⟨hne hc, fun k hk => List.mem_append_left _ ((h.1 hdone).2 k hk)⟩,
      fun ⟨_, ha⟩ => Decidable.by_contra fun hn => hd (by rw [hall.2 ha]; simpa using hn)⟩
  case case3 => exact h

/-- **the gate, from any group in which `RGInv` holds**: after any further answers the completion has been spawned iff
somebody is asked and every asked player had answered before or is among them -/
theorem rg_gate (is : List Nat) (g : RG) (h : RGInv g) :
    (is.foldl RG.answer g).done = true ↔ (g.awaited ≠ [] ∧ ∀ i ∈ g.awaited, i ∈ g.answered ∨ i ∈ is) := by
  induction is generalizing g with
  | nil => simpa [RGInv] using h
  | cons i t ih =>
    rw [List.foldl_cons, ih _ (rg_answer_inv g i h), rg_awaited]
    refine and_congr_right fun _ => forall₂_congr fun k hk => ?_
    rw [rg_answered_mem, List.mem_cons]
    exact ⟨fun h => h.elim (fun h => h.elim .inl fun h => .inr (.inl h.1)) fun h => .inr (.inr h),
      fun h => h.elim (fun h => .inl (.inl h)) fun h => h.elim (fun h => .inl (.inr ⟨h, h ▸ hk⟩)) .inr⟩

/-- **C11 — the hand moves on exactly when every asked player has answered**: after any sequence of answers (any
order, repetitions, answers of players who were not asked) the group call has been issued iff somebody was asked and
every asked player is among those who answered. -/
theorem C11_gate (v : View) (is : List Nat) :
    (is.foldl RG.answer (RG.arm v)).done = true ↔ (asked v ≠ [] ∧ ∀ i ∈ asked v, i ∈ is) := by
  have h0 : RGInv (RG.arm v) :=
    ⟨nofun, fun ⟨hne, ha⟩ => absurd (List.eq_nil_iff_forall_not_mem.2 fun a h => nomatch ha a h) hne⟩
  have h : _ ↔ asked v ≠ [] ∧ ∀ i ∈ asked v, i ∈ [] ∨ i ∈ is := rg_gate is (RG.arm v) h0
  simpa only [List.not_mem_nil, false_or] using h

/-- the response time-out in the source is the one modelled by `RG.timeout` (regenerated from `NewGame` in game.go):
17 seconds, and its callback signals for *every* participant of the group that has not answered, whatever its index -/
theorem C11_timeout_fact :
    Facts.gameTimeoutSecs = 17 ∧
    Facts.gameTimeoutBody =
      ["states := rg.GetParticipantStates()",
       "for gamePlayerIdx, isReady := range states { if !isReady { rg.Ready(gamePlayerIdx) } }"] := ⟨rfl, rfl⟩

/-- the response timeout completes the group as well (unless nobody is asked) -/
theorem C11_timeout (g : RG) (hne : g.awaited ≠ []) : g.timeout.done = true := by
  unfold RG.timeout
  by_cases hd : g.done = true
  · simp [hd]
  · have : g.awaited.isEmpty = false := by cases hq : g.awaited <;> simp_all
    simp [hd, this]

/-- D17: ante-only structure (every blind 0): at the blinds request nobody is asked, so no answer — and no timeout —
ever completes the group; the hand stays at `BlindsRequested` -/
def witnessAnteOnly : View :=
  { exView with event := "BlindsRequested", ante := 5, bDealer := 0, bSB := 0, bBB := 0 }

theorem C11_no_progress_on_witness :
    asked witnessAnteOnly = [] ∧ (RG.arm witnessAnteOnly).timeout.done = false ∧
    ([0, 1, 2].foldl RG.answer (RG.arm witnessAnteOnly)).done = false := by decide +kernel

-- non-vacuity: a blinds request on a 3-player hand with sb/bb blinds asks game indexes 1 and 2; both answers complete it
example : asked { exView with event := "BlindsRequested" } = [1, 2] ∧
    ([2, 0, 2].foldl RG.answer (RG.arm { exView with event := "BlindsRequested" })).done = false ∧
    ([2, 0, 1].foldl RG.answer (RG.arm { exView with event := "BlindsRequested" })).done = true := by decide +kernel

end HD
