import PokerVerif.Lemmas.SMAssign
import PokerVerif.Lemmas.SMRotate
/-!
# Who sits where in the seat manager, and the operations that change no occupant

`idAt st i` is the id of the occupant of seat `i` (if any).  `IdsUnique st`: no id sits on two seats of the table.
Under it `seatOf st id` is *the* seat of `id`.  Sit-ins, has-chips updates and the button operations rewrite one field of
some occupants and nothing else (`AgreeBut`).
-/
namespace SM

def idAt (st : State) (i : Int) : Option Nat := (st.seats i).map (·.id)

/-- `seatOf` is the lowest seat showing the id -/
theorem seatOf_eq_firstSeat (st : State) (id : Nat) : seatOf st id = firstSeat (fun i => idAt st i == some id) st.maxSeat := by
  unfold seatOf idAt
  congr; funext i
  cases st.seats i <;> simp

def IdsUnique (st : State) : Prop :=
  ∀ (i j : Int) (x : Nat), 0 ≤ i → i < st.maxSeat → 0 ≤ j → j < st.maxSeat → idAt st i = some x → idAt st j = some x → i = j

theorem seatOf_found (st : State) (id : Nat) (h : seatOf st id ≠ -1) :
    0 ≤ seatOf st id ∧ seatOf st id < st.maxSeat ∧ idAt st (seatOf st id) = some id := by
  rw [seatOf_eq_firstSeat] at h ⊢
  obtain ⟨h0, hn, hp⟩ := firstSeat_found _ _ h
  exact ⟨h0, hn, by simpa using hp⟩

theorem hasPlayer_iff (st : State) (id : Nat) :
    hasPlayer st id = true ↔ ∃ i : Int, 0 ≤ i ∧ i < st.maxSeat ∧ idAt st i = some id :=
  bne_iff_ne.trans ⟨fun h => ⟨_, seatOf_found st id h⟩, fun ⟨i, h0, hn, hid⟩ =>
    seatOf_eq_firstSeat st id ▸ firstSeat_ne _ _ i h0 hn (by rw [hid]; simp)⟩

theorem fresh_nowhere (st : State) (id : Nat) (h : hasPlayer st id = false) (i : Int) (h0 : 0 ≤ i) (hn : i < st.maxSeat) :
    idAt st i ≠ some id :=
  fun hid => by rw [(hasPlayer_iff st id).mpr ⟨i, h0, hn, hid⟩] at h; cases h

theorem seatOf_eq (st : State) (hu : IdsUnique st) (id : Nat) (i : Int) (h0 : 0 ≤ i) (hn : i < st.maxSeat)
    (hid : idAt st i = some id) : seatOf st id = i := by
  obtain ⟨r0, rn, rid⟩ := seatOf_found st id (bne_iff_ne.1 ((hasPlayer_iff st id).mpr ⟨i, h0, hn, hid⟩))
  exact hu _ _ id r0 rn h0 hn rid hid

def setIn (b : Bool) (p : SeatPlayer) : SeatPlayer := { p with isIn := b }
def setHasChips (b : Bool) (p : SeatPlayer) : SeatPlayer := { p with hasChips := b }
def setBetween (b : Bool) (p : SeatPlayer) : SeatPlayer := { p with between := b }

def skey (p : SeatPlayer) : Nat × Bool := (p.id, p.isIn)
def keyAt (st : State) (i : Int) : Option (Nat × Bool) := (st.seats i).map skey

/-- same seat count and, seat by seat, the same occupant to every projection `g` that the updates `u` do not affect
(`idAt` is `g := (·.id)`, `keyAt` is `g := skey`) -/
structure AgreeBut {ι : Type} (u : ι → SeatPlayer → SeatPlayer) (a b : State) : Prop where
  seats : ∀ {α : Type} (g : SeatPlayer → α), (∀ i p, g (u i p) = g p) → ∀ k, (a.seats k).map g = (b.seats k).map g
  maxSeat : a.maxSeat = b.maxSeat

theorem AgreeBut.refl {ι : Type} (u : ι → SeatPlayer → SeatPlayer) (a : State) : AgreeBut u a a := ⟨fun _ _ _ => rfl, rfl⟩
theorem AgreeBut.trans {ι : Type} {u : ι → SeatPlayer → SeatPlayer} {a b c : State} (h1 : AgreeBut u a b)
    (h2 : AgreeBut u b c) : AgreeBut u a c :=
  ⟨fun g hg k => (h1.seats g hg k).trans (h2.seats g hg k), h1.maxSeat.trans h2.maxSeat⟩

theorem joinSeats_map {α : Type} (g : SeatPlayer → α) (hg : ∀ p, g { p with isIn := true } = g p) (s : Seats) (ks : List Int)
    (i : Int) : ((joinSeats s ks) i).map g = (s i).map g := by
  induction ks generalizing s with
  | nil => rfl
  | cons k t ih => exact (ih _).trans (updAt_map g _ hg s k i)

theorem join_agree (st : State) (ids : List Nat) : AgreeBut setIn (join st ids).1 st := by
  refine ⟨fun g hg i => ?_, (join_atomic st ids).buttons.maxSeat⟩
  rcases join_cases st ids with ⟨_, h⟩ | ⟨_, h⟩ <;> rw [h]
  exact joinSeats_map g (hg true) _ _ i

theorem setChips_agree (st : State) (id : Nat) (b : Bool) : AgreeBut setHasChips (setChips st id b).1 st := by
  refine ⟨fun g hg i => ?_, (setChips_atomic st id b).buttons.maxSeat⟩
  rcases setChips_cases st id b with ⟨_, h⟩ | ⟨_, h⟩ <;> rw [h]
  exact updAt_map g _ (hg b) _ _ i

theorem init_agree (st : State) (c : Option Int) : AgreeBut setBetween (init st c).1 st :=
  ⟨fun _ _ i => by rw [init_frame], by rw [init_frame]⟩

theorem rotate_agree (st : State) : AgreeBut setBetween (rotate st).1 st := by
  refine ⟨fun g hg i => ?_, by rw [rotate_frame]⟩
  have hg' : ∀ p b, g { p with between := b } = g p := fun p b => hg b p
  rcases rotate_seats st with e | e <;> rw [e]
  rcases rotateDefault_seats st with e | e <;> rw [e]
  · exact reflag_map g hg' _ _ _ _ i
  · exact (reflag_map g hg' _ _ _ _ i).trans (reflag_map g hg' _ _ _ _ i)

/-- the sit-in of somebody the seat manager holds — once, so that `GetSeatID` finds that seat — writes the flag there -/
theorem join_one (st : State) (hu : IdsUnique st) (id : Nat) (seat : Int) (h0 : 0 ≤ seat) (hn : seat < st.maxSeat)
    (hid : idAt st seat = some id) :
    join st [id] = ({ st with seats := updAt st.seats seat (fun p => { p with isIn := true }) }, .ok) := by
  rcases join_cases st [id] with ⟨⟨x, hx, hno⟩, _⟩ | ⟨_, h⟩
  · rw [List.mem_singleton.mp hx, (hasPlayer_iff st id).mpr ⟨seat, h0, hn, hid⟩] at hno; cases hno
  · rw [h, List.map_singleton, seatOf_eq st hu id seat h0 hn hid]; rfl

end SM
