import PokerVerif.Lemmas.SMBasic
/-! `SM.rotate` / `SM.rotateDefault` / `SM.init`: model scans = spec searches, the new BB seat, and one case lemma per
operation (`rotateDefault_cases`, `rotate_cases`, `init_cases`) from which everything else about them is derived. -/
namespace SM
open SMSpec

theorem fwd_eq_spec (n : Nat) (start : Int) (h0 : 0 ≤ start) (p : Int → Bool) :
    scan (fun i => Int.tmod (start + (i : Int)) n) p (n - 1) 1 = firstCw n start p :=
  (scan_congr _ (cw n start) _ _ _ fun j _ _ => Int.tmod_eq_emod_of_nonneg (Int.add_nonneg h0 (Int.natCast_nonneg j))).trans
    (scan_eq_find (cw n start) p (n - 1) 1)

theorem bwd_eq_spec (n : Nat) (start : Int) (h0 : 0 ≤ start) (p : Int → Bool) :
    scan (fun i => Int.tmod (start + (n : Int) - (i : Int)) n) p (n - 1) 1 = firstCcw n start p := by
  refine (scan_congr _ (ccw n start) _ _ _ fun j h1 h2 => ?_).trans (scan_eq_find (ccw n start) p (n - 1) 1)
  have hjn : (j : Int) ≤ n := Int.ofNat_le.2 (Nat.le_of_lt ((offset_lt h1).1 h2))
  show Int.tmod (start + (n : Int) - (j : Int)) n = (start - (j : Int)) % (n : Int)
  rw [Int.tmod_eq_emod_of_nonneg (Int.sub_nonneg_of_le (Int.le_trans hjn (Int.le_add_of_nonneg_left h0))),
    Int.sub_eq_add_neg, Int.add_right_comm, ← Int.sub_eq_add_neg, Int.add_emod_right]

theorem nextAlive_eq_spec (st : State) (start : Int) (h0 : 0 ≤ start) :
    nextAlive st start = firstCw st.maxSeat start (aliveAt st.seats) := fwd_eq_spec _ _ h0 _

theorem nextActive_eq_spec (st : State) (start : Int) (h0 : 0 ≤ start) :
    nextActive st start = firstCw st.maxSeat start (activeAt st.seats) := fwd_eq_spec _ _ h0 _

theorem prevAlive_eq_spec (st : State) (start : Int) (h0 : 0 ≤ start) :
    prevAlive st start = firstCcw st.maxSeat start (aliveAt st.seats) := bwd_eq_spec _ _ h0 _

-- The modulus and the offset of the model's scans are what `Facts` says the source contains; they unfold to `st.maxSeat`
-- (`facts_nextAliveMod` … hold by `rfl`), so the scans are literally those of `visits_fwd` / `visits_bwd`.

theorem nextAlive_props (st : State) (start : Int) (h0 : 0 ≤ start) (hn : start < st.maxSeat)
    (hne : nextAlive st start ≠ -1) :
    0 ≤ nextAlive st start ∧ nextAlive st start < st.maxSeat ∧ aliveAt st.seats (nextAlive st start) = true ∧
    nextAlive st start ≠ start := scan_visits_props (visits_fwd _ _ h0 hn) _ hne

theorem nextActive_props (st : State) (start : Int) (h0 : 0 ≤ start) (hn : start < st.maxSeat)
    (hne : nextActive st start ≠ -1) :
    0 ≤ nextActive st start ∧ nextActive st start < st.maxSeat ∧ activeAt st.seats (nextActive st start) = true ∧
    nextActive st start ≠ start := scan_visits_props (visits_fwd _ _ h0 hn) _ hne

theorem prevAlive_props (st : State) (start : Int) (h0 : 0 ≤ start) (hn : start < st.maxSeat)
    (hne : prevAlive st start ≠ -1) :
    0 ≤ prevAlive st start ∧ prevAlive st start < st.maxSeat ∧ aliveAt st.seats (prevAlive st start) = true ∧
    prevAlive st start ≠ start := scan_visits_props (visits_bwd _ _ h0 hn) _ hne

theorem nextAlive_of_two (st : State) (start : Int) (h0 : 0 ≤ start) (hn : start < st.maxSeat)
    (h : 2 ≤ aliveCount st.maxSeat st.seats) : nextAlive st start ≠ -1 := scan_visits_two (visits_fwd _ _ h0 hn) _ h

theorem nextActive_of_two (st : State) (start : Int) (h0 : 0 ≤ start) (hn : start < st.maxSeat)
    (h : 2 ≤ activeCount st.maxSeat st.seats) : nextActive st start ≠ -1 := scan_visits_two (visits_fwd _ _ h0 hn) _ h

theorem prevAlive_of_two (st : State) (start : Int) (h0 : 0 ≤ start) (hn : start < st.maxSeat)
    (h : 2 ≤ aliveCount st.maxSeat st.seats) : prevAlive st start ≠ -1 := scan_visits_two (visits_bwd _ _ h0 hn) _ h

/-- the seats after the first re-flagging pass of `rotatePositions` -/
def seats1 (st : State) : Seats := reflag st.maxSeat st.sb (nextAlive st st.bb) st.seats

/-- two dealt-in players after re-flagging ⇒ a new BB seat exists, is in range, live, not the old BB seat and
dealt in -/
theorem newBB_of_two_active (st : State) (hbb0 : 0 ≤ st.bb) (hbbn : st.bb < st.maxSeat)
    (hac : 2 ≤ activeCount st.maxSeat (seats1 st)) :
    nextAlive st st.bb ≠ -1 ∧ 0 ≤ nextAlive st st.bb ∧ nextAlive st st.bb < st.maxSeat ∧
    aliveAt st.seats (nextAlive st st.bb) = true ∧ nextAlive st st.bb ≠ st.bb ∧
    activeAt (seats1 st) (nextAlive st st.bb) = true := by
  have hne1 := nextAlive_of_two st st.bb hbb0 hbbn
    (Nat.le_trans hac (aliveCount_reflag .. ▸ activeCount_le_aliveCount st.maxSeat (seats1 st)))
  obtain ⟨h1, h2, h3, h4⟩ := nextAlive_props st st.bb hbb0 hbbn hne1
  exact ⟨hne1, h1, h2, h3, h4, reflag_at _ _ _ _ _ h3 (isBetween_self _ _ _ h1 h2)⟩

/-- the nearest live seat before the (new) small-blind seat, used as dealer when coming from heads-up -/
def huDealer (st : State) : Int :=
  prevAlive { st with seats := seats1 st, bb := nextAlive st st.bb, sb := st.bb } st.bb

/-- `rotatePositions` under the default rule.  Refused with fewer than two dealt in after the first re-flagging pass; else
the big blind goes to `nextAlive`, and seat map, dealer and small blind are those of a heads-up hand (two dealt in), of a
ring hand after a ring hand, or of a ring hand after a heads-up hand. -/
theorem rotateDefault_cases (st : State) :
    (activeCount st.maxSeat (seats1 st) < 2 ∧ rotateDefault st = ({ st with seats := seats1 st }, .err [.unableRotate])) ∨
    (2 ≤ activeCount st.maxSeat (seats1 st) ∧ ∃ ss d s,
      rotateDefault st = ({ st with seats := ss, bb := nextAlive st st.bb, dealer := d, sb := s }, .ok) ∧
      ((activeCount st.maxSeat (seats1 st) = 2 ∧ ss = seats1 st ∧ s = d ∧
          d = nextActive { st with seats := seats1 st, bb := nextAlive st st.bb } (nextAlive st st.bb)) ∨
       (3 ≤ activeCount st.maxSeat (seats1 st) ∧ isHU st = false ∧ ss = seats1 st ∧ s = st.bb ∧ d = st.sb) ∨
       (3 ≤ activeCount st.maxSeat (seats1 st) ∧ isHU st = true ∧
          ss = reflag st.maxSeat (huDealer st) (nextAlive st st.bb) (seats1 st) ∧ s = st.bb ∧ d = huDealer st))) := by
  fun_cases rotateDefault st
  case case1 h => exact .inl ⟨h, rfl⟩
  case case2 h1 _ h2 _ => exact .inr ⟨Nat.le_of_not_lt h1, _, _, _, rfl, .inl ⟨beq_iff_eq.mp h2, rfl, rfl, rfl⟩⟩
  case case3 h1 _ h2 _ hu _ _ =>
    have h3 := Nat.lt_of_le_of_ne (Nat.le_of_not_lt h1) (Ne.symm (mt beq_iff_eq.mpr h2))
    exact .inr ⟨Nat.le_of_not_lt h1, _, _, _, rfl, .inr (.inr ⟨h3, hu, rfl, rfl, rfl⟩)⟩
  case case4 h1 _ h2 _ hu =>
    have h3 := Nat.lt_of_le_of_ne (Nat.le_of_not_lt h1) (Ne.symm (mt beq_iff_eq.mpr h2))
    exact .inr ⟨Nat.le_of_not_lt h1, _, _, _, rfl, .inr (.inl ⟨h3, Bool.eq_false_iff.mpr hu, rfl, rfl, rfl⟩)⟩

theorem rotateDefault_seats (st : State) :
    (rotateDefault st).1.seats = seats1 st ∨
    (rotateDefault st).1.seats = reflag st.maxSeat (huDealer st) (nextAlive st st.bb) (seats1 st) := by
  rcases rotateDefault_cases st with ⟨_, e⟩ | ⟨_, ss, d, s, e, hc⟩ <;> rw [e]
  · exact .inl rfl
  · rcases hc with ⟨_, h, _⟩ | ⟨_, _, h, _⟩ | ⟨_, _, h, _⟩
    · exact .inl h
    · exact .inl h
    · exact .inr h

/-- `RotatePositions`: refused outright with the state untouched; the default-rule rotation of an initialised table; or the
short-deck rotation (two or more dealt in), which passes the dealer on and has no blinds seats -/
theorem rotate_cases (st : State) :
    rotate st = (st, .err [.unableRotate]) ∨ (st.isInit = true ∧ st.rule = .default ∧ rotate st = rotateDefault st) ∨
    (st.rule = .shortDeck ∧ 2 ≤ activeCount st.maxSeat st.seats ∧
      rotate st = ({ st with dealer := nextActive st st.dealer, sb := -1, bb := -1 }, .ok)) := by
  fun_cases rotate st
  case case2 h1 h2 => exact .inr (.inl ⟨by simpa using h1, h2, rfl⟩)
  case case3 h3 =>
    fun_cases rotateShort st
    · exact .inl rfl
    · exact .inr (.inr ⟨h3, Nat.le_of_not_lt ‹_›, rfl⟩)
  all_goals exact .inl rfl

theorem rotate_frame (st : State) :
    (rotate st).1 =
      { st with seats := (rotate st).1.seats, dealer := (rotate st).1.dealer, sb := (rotate st).1.sb, bb := (rotate st).1.bb } := by
  rcases rotate_cases st with e | ⟨_, _, e⟩ | ⟨_, _, e⟩ <;> rw [e]
  rcases rotateDefault_cases st with ⟨_, e⟩ | ⟨_, ss, d, s, e, _⟩ <;> rw [e]

theorem rotate_seats (st : State) :
    (rotate st).1.seats = st.seats ∨ (rotate st).1.seats = (rotateDefault st).1.seats := by
  rcases rotate_cases st with e | ⟨_, _, e⟩ | ⟨_, _, e⟩ <;> rw [e]
  · exact .inl rfl
  · exact .inr rfl
  · exact .inl rfl

theorem rotateDefault_ok_two (st : State) (h : (rotateDefault st).2 = .ok) :
    2 ≤ activeCount (rotateDefault st).1.maxSeat (rotateDefault st).1.seats := by
  rcases rotateDefault_cases st with ⟨_, e⟩ | ⟨hge, ss, d, s, e, hc⟩ <;> rw [e] at h ⊢
  · cases h
  · rcases hc with ⟨_, rfl, _⟩ | ⟨_, _, rfl, _⟩ | ⟨_, _, rfl, _⟩
    · exact hge
    · exact hge
    · exact Nat.le_trans hge (reflag_count_ge _ _ _ _ _)

theorem rotate_ok_two (st : State) (h : (rotate st).2 = .ok) :
    2 ≤ activeCount (rotate st).1.maxSeat (rotate st).1.seats := by
  rcases rotate_cases st with e | ⟨_, _, e⟩ | ⟨_, h2, e⟩ <;> rw [e] at h ⊢
  · cases h
  · exact rotateDefault_ok_two st h
  · exact h2

/-- the first big-blind seat of `InitPositions`: the recorded draw, or the lowest active seat -/
def firstOf (st : State) (c : Option Int) : Int :=
  match c with | some c => c | none => firstSeat (activeAt st.seats) st.maxSeat

/-- all of `InitPositions` at once: refused with the state untouched; or (not yet initialised, two or more dealt in) the
three button seats written — accepted, with the flag raised, or refused (a ring hand for which the backward scan finds no
small blind or no dealer) with the flag still down and the big blind already moved.  Under the default rule the big blind is
`firstOf`. -/
theorem init_cases (st : State) (c : Option Int) :
    (∃ e, init st c = (st, .err e)) ∨
    (st.isInit = false ∧ 2 ≤ activeCount st.maxSeat st.seats ∧ ∃ d s b i r,
      init st c = ({ st with dealer := d, sb := s, bb := b, isInit := i }, r) ∧
      ((r = .ok ∧ i = true) ∨ (r = .err [.unableInit] ∧ i = false)) ∧ (st.rule = .default → b = firstOf st c)) := by
  fun_cases init st c
  case case1 | case2 | case3 => exact .inl ⟨_, rfl⟩
  case case6 | case7 =>
    have hi := Bool.eq_false_iff.2 ‹¬st.isInit = true›
    exact .inr ⟨hi, Nat.le_of_not_lt ‹_›, _, _, _, _, _, rfl, .inr ⟨rfl, hi⟩, fun _ => rfl⟩
  case case9 hr =>
    exact .inr ⟨Bool.eq_false_iff.2 ‹¬st.isInit = true›, Nat.le_of_not_lt ‹_›, _, _, _, _, _, rfl, .inl ⟨rfl, rfl⟩, fun h => absurd h hr⟩
  all_goals exact .inr ⟨Bool.eq_false_iff.2 ‹¬st.isInit = true›, Nat.le_of_not_lt ‹_›, _, _, _, _, _, rfl, .inl ⟨rfl, rfl⟩, fun _ => rfl⟩

theorem init_frame (st : State) (c : Option Int) :
    (init st c).1 =
      { st with dealer := (init st c).1.dealer, sb := (init st c).1.sb, bb := (init st c).1.bb, isInit := (init st c).1.isInit } := by
  rcases init_cases st c with ⟨e, h⟩ | ⟨_, _, d, s, b, i, r, h, _⟩ <;> rw [h]

theorem init_ok_two (st : State) (c : Option Int) (h : (init st c).2 = .ok) :
    2 ≤ activeCount (init st c).1.maxSeat (init st c).1.seats := by
  rw [init_frame]
  rcases init_cases st c with ⟨e, h'⟩ | ⟨_, h2, _⟩
  · rw [h'] at h; cases h
  · exact h2
end SM
