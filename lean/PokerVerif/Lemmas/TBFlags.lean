import PokerVerif.Lemmas.TBAgree
/-!
# Table and seat manager show the same seated-in flag for every occupant

`FlagInv s`: for every listed player, whatever the seat manager holds on his seat under his id carries his seated-in flag.
Together with `Agree` (the seat manager holds exactly him there) this is the "same seated-in flag" clause of C03.
`QuietF a b`: an operation that changes no player's (id, seat, flag) and no seat's (id, flag) — everything but sit-ins,
arrivals and departures.  Sit-ins write both flags (the seat manager cannot refuse a listed player: `Agree`); arrivals come
not seated-in on both sides; departures only clear seats.
-/
namespace TB

def pkey (p : Player) : Nat × Int × Bool := (p.id, p.seat, p.isIn)

def FlagInv (s : State) : Prop :=
  ∀ p ∈ s.players, ∀ sp, s.sm.seats p.seat = some sp → sp.id = p.id → sp.isIn = p.isIn

/-- nothing about anybody's seated-in flag has changed -/
structure QuietF (a b : State) : Prop where
  ids : a.players.map pkey = b.players.map pkey
  smIds : ∀ i, SM.keyAt a.sm i = SM.keyAt b.sm i
  smMax : a.sm.maxSeat = b.sm.maxSeat

theorem FlagInv.of_quiet {a b : State} (hq : QuietF a b) (w : FlagInv b) : FlagInv a := by
  intro p hp sp hsp hid
  -- the same player, as far as id / seat / flag go, is listed in b, and his seat holds the same (id, flag)
  obtain ⟨q, hq', hk⟩ := List.mem_map.mp (hq.ids ▸ List.mem_map_of_mem hp : pkey p ∈ b.players.map pkey)
  obtain ⟨hk1, hk2, hk3⟩ : q.id = p.id ∧ q.seat = p.seat ∧ q.isIn = p.isIn := by simpa [pkey] using hk
  have hs := hq.smIds p.seat
  rw [SM.keyAt, hsp, SM.keyAt] at hs
  obtain ⟨sq, hb, he⟩ := Option.map_eq_some_iff.mp hs.symm
  obtain ⟨h1, h2⟩ : sq.id = sp.id ∧ sq.isIn = sp.isIn := by simpa [SM.skey] using he
  rw [← h2, ← hk3]
  exact w q hq' sq (hk2 ▸ hb) (by rw [h1, hid, hk1])

theorem qf_started (s : State) : QuietF { s with started := true } s := ⟨rfl, fun _ => rfl, rfl⟩

theorem qf_auto (s : State) (rg : List (Nat × Bool)) (d : Bool) : QuietF { s with autoRg := rg, autoDone := d } s :=
  ⟨rfl, fun _ => rfl, rfl⟩
theorem qf_autoRg (s : State) (rg : List (Nat × Bool)) : QuietF { s with autoRg := rg } s := ⟨rfl, fun _ => rfl, rfl⟩

theorem calm_quietF (s : State) (e : Event) (h : Calm s e) (hn : NoSitIn e) : QuietF (step s e) s :=
  have k := calm_keeps s e h
  ⟨k.players pkey (.inr fun _ _ => rfl) (fun _ _ => rfl) (.inl hn), k.seats SM.skey (fun _ _ => rfl) (fun _ _ => rfl) (.inl hn),
    k.maxSeat⟩

/-- on a table whose books agree the seat manager holds a listed player on his seat, so it cannot refuse his sit-in and
writes the flag there -/
theorem join_listed {s : State} (hb : Booked s) (ha : Agree s) {id i : Nat} {p : Player} (hfi : findPlayerIdx s id = some i)
    (hp : s.players[i]? = some p) :
    SM.join s.sm [id] = ({ s.sm with seats := SM.updAt s.sm.seats p.seat (fun q => { q with isIn := true }) }, .ok) := by
  obtain ⟨_, q, hq, rfl⟩ := findIdxAux_some id s.players 0 i hfi
  cases hp.symm.trans hq
  have hm := List.mem_of_getElem? hp
  obtain ⟨h0, hn⟩ := hb.seat_range hm
  exact SM.join_one s.sm (sm_unique s hb ha) _ p.seat h0 (ha.maxSeat ▸ hn) (ha.at_player hb hm)

theorem joinCore_flags (s : State) (id : Nat) (hb : Booked s) (ha : Agree s) (hf : FlagInv s) :
    FlagInv (joinCore s id).1 := by
  rcases joinCore_cases s id with ⟨_, h⟩ | ⟨i, p, hfi, hp, ⟨_, he, _⟩ | ⟨_, h⟩⟩
  · rw [h]; exact hf
  · rw [join_listed hb ha hfi hp] at he; cases he
  · rw [h, join_listed hb ha hfi hp]
    intro q hq sq hsq hqid
    obtain ⟨j, hjq⟩ := List.mem_iff_getElem?.mp hq
    change (modAt s.players i _)[j]? = _ at hjq
    change SM.updAt s.sm.seats p.seat _ q.seat = _ at hsq
    by_cases hji : i = j
    · -- the player who sat in
      subst hji
      rw [modAt, List.getElem?_modify_eq, hp] at hjq
      cases hjq
      rw [SM.updAt_apply, if_pos rfl] at hsq
      obtain ⟨sp, _, rfl⟩ := Option.map_eq_some_iff.1 hsq
      rfl
    · -- somebody else sits on another seat
      rw [modAt, List.getElem?_modify_ne _ _ hji] at hjq
      have hne : q.seat ≠ p.seat := fun h => hji (by
        have := hb.1.1.players j q hjq
        rw [h, hb.1.1.players i p hp] at this
        exact Int.ofNat.inj (Option.some.inj this))
      rw [SM.updAt_apply, if_neg hne] at hsq
      exact hf q (List.mem_of_getElem? hjq) sq hsq hqid

/-- books agree, flags agree: what a sit-in needs and keeps -/
theorem sitIn_flags : (∀ s id, Inv s ∧ FlagInv s → Inv (join s id).1 ∧ FlagInv (join s id).1) ∧
    (∀ s, Inv s ∧ FlagInv s → Inv (autoJoinStale s) ∧ FlagInv (autoJoinStale s)) :=
  join_induct (fun s id h => ⟨joinCore_inv s id h.1, joinCore_flags s id h.1.1 h.1.2 h.2⟩)
    fun _ _ _ _ w => ⟨⟨w.1.1, w.1.2.maxSeat, w.1.2.seats, w.1.2.ids⟩, w.2⟩

theorem FlagInv.of_sub {a b : State} (hsub : ∀ p ∈ a.players, p ∈ b.players)
    (h3 : ∀ i, a.sm.seats i = b.sm.seats i ∨ a.sm.seats i = none) (w : FlagInv b) : FlagInv a := by
  intro p hp sp hsp hid
  rcases h3 p.seat with h | h <;> rw [h] at hsp
  · exact w p (hsub p hp) sp hsp hid
  · cases hsp

theorem batchRemove_flags (s : State) (ids : List Nat) (hf : FlagInv s) : FlagInv (batchRemove s ids).1 := by
  rcases batchRemove_cases s ids with ⟨_, h⟩ | ⟨h, _⟩ | ⟨_, _, _, _, _, h⟩ <;> rw [h]
  · exact hf
  · exact .of_sub (b := s) (fun _ hp => hp) (SM.remove_seat s.sm ids) hf
  · exact .of_sub (b := s) (fun _ hp => (List.mem_filter.mp hp).1) (SM.remove_seat s.sm ids) hf

/-- a seat that was occupied is left exactly as it was — by the placements (they go to empty seats), and by the release of
the fixed seats when the random half is refused (it clears only what was just placed) -/
theorem batchAdd_oldKept (s : State) (js : List Join) (ch : List Int) (hl : BatchLegal s js ch)
    (i : Int) (h0 : 0 ≤ i) (hn : i < s.sm.maxSeat) (hocc : SM.idAt s.sm i ≠ none) :
    (batchAdd s js ch).1.sm.seats i = s.sm.seats i := by
  rcases batchAdd_legal_cases s js ch hl with ⟨_, h⟩ | ⟨_, p1, h⟩ | ⟨b, pb, _, _, ⟨_, h⟩ | ⟨_, _, _, _, _, h⟩⟩ <;> rw [h]
  · exact SM.release_oldKept s.sm _ p1.empty p1.fresh i h0 hn hocc
  all_goals exact SM.placeAll_other s.sm b i fun e he hc => hocc (hc ▸ (pb.empty e he).2.2)

theorem batchAdd_flags (s : State) (js : List Join) (ch : List Int) (hb : Booked s) (ha : Agree s) (hf : FlagInv s)
    (hl : BatchLegal s js ch) : FlagInv (batchAdd s js ch).1 := by
  have hnp := batchAdd_no_panic s js ch hb ha hl
  -- players listed before: their seats are untouched
  have old : ∀ p ∈ s.players, ∀ sp, (batchAdd s js ch).1.sm.seats p.seat = some sp → sp.id = p.id → sp.isIn = p.isIn := by
    intro p hp
    obtain ⟨h0, hn⟩ := hb.seat_range hp
    rw [batchAdd_oldKept s js ch hl p.seat h0 (ha.maxSeat ▸ hn) (by rw [ha.at_player hb hp]; nofun)]
    exact hf p hp
  rcases batchAdd_legal_cases s js ch hl with ⟨_, h⟩ | ⟨_, _, h⟩ | ⟨b, _, hp, _, ⟨_, h⟩ | ⟨ps, m, _, _, hap, h⟩⟩
  · rw [h]; exact hf
  · rw [h] at old ⊢; exact old
  · rw [h] at hnp; exact absurd rfl hnp
  · rw [h] at old ⊢
    cases appendPlayers_players hap
    intro q hq sq hsq hqid
    rcases List.mem_append.mp hq with hq | hq
    · exact old q hq sq hsq hqid
    · -- a newcomer: his seat was empty, so what it holds was put there
      obtain ⟨j, hj, rfl⟩ := List.mem_map.mp hq
      have hnone := (hp.seatOf (sm_unique s hb ha) hj).2.2.2
      rcases SM.placeAll_seat s.sm b (SM.seatOf (SM.placeAll s.sm b) j.id) with h | ⟨sp, h, hsp⟩
      · rw [SM.idAt, ← h, hsq] at hnone; cases hnone
      · cases hsq.symm.trans h; exact hsp

theorem create_flags (cfg : Meta) (b : Blind) : FlagInv (create cfg b) := by
  intro p hp
  simp [create] at hp

end TB
