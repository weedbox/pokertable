import PokerVerif.Lemmas.TBLedger
import PokerVerif.Examples.TB
/-!
# C01 — Chips are conserved by hands, top-ups and departures

Statement: the table never creates or destroys chips: whenever no hand is in progress, the bankrolls of the seated
players sum to everything brought in (buy-ins, re-buys, add-ons) minus what departing players took with them.  A
completed hand only moves chips between the players dealt into it — each one's bankroll changes by exactly their
result for that hand — and leaves everyone else's bankroll untouched.

`broughtIn` / `takenOut` are ghost ledgers of the `TB` model (amounts of accepted reservations, re-buys, add-ons;
bankrolls of accepted departures).  The hand engine is a parameter: theorems hold for every result it may return
that is zero-sum (`ResultsConserve`, contract on pokerface, monitored on every real result).
`Facts.settleMode` ties the write-back in `settleGame` (`Bankroll += Changed`) to the source.
-/
namespace TB

/-- settleGame credits the participant's change (regenerated from table_engine_stage.go) -/
theorem C01_settle_mode_fact : Facts.settleMode = "+= player.Changed" := rfl

/-- no step of the engine swaps the live table for another object (only `CreateTable` assigns it): chips added by a call
that takes no engine lock cannot be dropped with a table that is thrown away (D31; regenerated from the source) -/
theorem C01_live_table_never_swapped_fact : Facts.teTableAssigned = ["CreateTable"] := rfl

/-- `PlayerRedeemChips` credits the chips with one `+=` on the live entry and only then talks to the seat manager: the
read-modify-write of the bankroll does not span another call (regenerated from table_engine.go) -/
theorem C01_redeem_credit_fact : Facts.redeemSteps = ["playerState.Bankroll += joinPlayer.RedeemChips", "tell-seat-manager"] :=
  rfl

/-- **C01 — the ledger balances in every reachable state** (hence whenever no hand is in progress): for every table
configuration and every sequence of operations and internal events, of any length, the bankrolls sum to what was
brought in minus what departing players took with them. -/
theorem C01_ledger (cfg : Meta) (b : Blind) (evs : List Event) (hz : ResultsConserve evs) :
    total (run (create cfg b) evs) = (run (create cfg b) evs).broughtIn - (run (create cfg b) evs).takenOut :=
  ledger_run _ evs (ledger_create cfg b) hz

/-- … also from a table created with players (`CreateTable` with `JoinPlayers`): what they brought is booked as brought in -/
theorem C01_ledger_created_with_players (cfg : Meta) (b : Blind) (js : List Join) (ch : List Int) (evs : List Event)
    (hz : ResultsConserve evs) :
    total (run (createWith cfg b js ch).1 evs) =
      (run (createWith cfg b js ch).1 evs).broughtIn - (run (createWith cfg b js ch).1 evs).takenOut :=
  ledger_run _ evs (ledger_createJoin _ js ch (ledger_create cfg b)) hz

/-- **C01 — a completed hand changes each player's bankroll by exactly what the result credits to them through the
hand's list, and nobody else's**: player index `k` gains the sum of the result entries whose game index maps to `k`
(`credit`), which is `0` for everybody the hand's list does not name. -/
theorem C01_settle_local (s : State) (res : List (Nat × Int)) (hok : (settle s res).2 = .ok) :
    (settle s res).1.players.length = s.players.length ∧
    ∀ k, k < s.players.length → bankAt (settle s res).1.players k = bankAt s.players k + credit s.gidx res k := by
  rcases settle_credits s res with ⟨_, hp⟩ | ⟨ps, nb, heq, hl, _, hk⟩
  · rw [hp] at hok; cases hok
  · rw [heq]; exact ⟨hl, fun k _ => hk k⟩

/-- nobody outside the hand's list is touched -/
theorem C01_bystanders_untouched (s : State) (res : List (Nat × Int)) (hok : (settle s res).2 = .ok) (k : Nat)
    (hk : k < s.players.length) (hout : ∀ e ∈ res, s.gidx[e.1]? ≠ some (k : Int)) :
    bankAt (settle s res).1.players k = bankAt s.players k := by
  rw [(C01_settle_local s res hok).2 k hk, credit, List.filter_eq_nil_iff.mpr fun e he => by simpa using hout e he]
  exact Int.add_zero _

/-- buy-in, re-buy and add-on add exactly the amount to the ledger; a departure removes exactly the leavers'
bankrolls (all through `ledger_step`; stated here for the single operations) -/
theorem C01_ops_exact (s : State) (hl : Ledger s) :
    (∀ j ch, Ledger (reserve s j ch).1) ∧ (∀ id c, Ledger (redeem s id c).1) ∧ (∀ ids, Ledger (batchRemove s ids).1) ∧
    (∀ js lv ch, Ledger (update s js lv ch).1) :=
  ⟨fun j ch => ledger_step s (.reserve j ch) hl nofun, fun id c => ledger_step s (.redeem id c) hl nofun,
   fun ids => ledger_step s (.leave ids) hl nofun, fun js lv ch => ledger_step s (.update js lv ch) hl nofun⟩

-- non-vacuity: a history with a buy-in, an add-on during the hand, a zero-sum result and a departure
example : ResultsConserve exHistory ∧ (run (create exCfg exBlind) exHistory).players.length = 2 ∧
    total (run (create exCfg exBlind) exHistory) = 820 ∧ (run (create exCfg exBlind) exHistory).broughtIn = 1100 ∧
    (run (create exCfg exBlind) exHistory).takenOut = 280 := by
  refine ⟨by simp [exHistory, ResultsConserve], by decide +kernel⟩

end TB
