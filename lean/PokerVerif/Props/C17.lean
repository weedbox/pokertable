import PokerVerif.MG
/-!
# C17 — Manager tables are isolated and manager calls equal engine calls

Statement: every manager operation addressed to a table id has exactly the effect and result of the same-named
operation on that table's engine and no effect on any other table; an id that was never created, or whose table
has been closed or released, yields the table-not-found error.

Two parts.  (1) Facts regenerated from `manager.go` (one row per method, produced by /verif/extract, which fails
closed on any body shape it does not recognise) satisfy the forwarding discipline — decided over the whole finite
table.  (2) For *every* engine (`E`, `estep` arbitrary) the registry model built from those facts forwards,
isolates and forgets closed tables.
-/
namespace MG

/-- every method was recognised, looks the table up first, answers a failed lookup with
ErrManagerTableNotFound, calls the engine method of the same name with its own parameters in order, and returns
what that call returned -/
theorem C17_forward_facts :
    Facts.managerTable.all (fun r =>
      r.recognised && r.lookupOK && r.notFound && r.callee == r.name && r.args == r.params && r.returnsIt) = true := by
  simp only [Facts.managerTable, List.all_cons, List.all_nil, beq_self_eq_true, Bool.and_self]

/-- exactly CloseTable and ReleaseTable delete the registry entry, and they do so after the engine call -/
theorem C17_delete_facts :
    Facts.managerTable.all (fun r =>
      (r.deletes == (r.name == "CloseTable" || r.name == "ReleaseTable")) && (r.deletes == r.delAfter)) = true := by
  decide +kernel

/-- all 22 forwarding methods of the `Manager` interface are present (the other three — Reset, GetTableEngine,
CreateTable — are not forwarders and are tied by their statement text below) -/
theorem C17_methods_facts :
    Facts.managerTable.map (·.name) =
      ["CloseTable", "PauseTable", "PlayerAllin", "PlayerBet", "PlayerCall", "PlayerCheck",
       "PlayerExtendActionDeadline", "PlayerFold", "PlayerJoin", "PlayerPass", "PlayerPay", "PlayerRaise",
       "PlayerReady", "PlayerRedeemChips", "PlayerReserve", "PlayerSettlementFinish", "PlayersLeave",
       "ReleaseTable", "SetUpTableGame", "StartTableGame", "UpdateBlind", "UpdateTablePlayers"] ∧
    Facts.managerOther = ["CreateTable", "GetTableEngine", "Reset"] := ⟨rfl, rfl⟩

theorem C17_lookup_facts :
    Facts.managerGetTableEngine =
      ["tableEngine, exist := m.tableEngines.Load(tableID)",
       "if !exist { return nil, ErrManagerTableNotFound }",
       "return tableEngine.(TableEngine), nil"] ∧
    Facts.managerCreateTail =
      ["table, err := tableEngine.CreateTable(setting)", "if err != nil { return nil, err }",
       "m.tableEngines.Store(table.ID, tableEngine)", "return table, nil"] := ⟨rfl, rfl⟩

variable {E Op R : Type} (estep : E → Op → E × R) (nameOf : Op → String) (failed : R → Bool)

/-- one table on its own: absent (never created, closed, released) it answers table-not-found and stays absent; present it
is the engine's own step, and a successful Close / Release makes it absent -/
def tstep (st : Option E) (op : Op) : Option E × Out R :=
  match st with
  | none => (none, .notFound)
  | some e =>
    let r := estep e op
    if deletes (nameOf op) && !failed r.2 then (none, .result r.2) else (some r.1, .result r.2)

/-! The registry read through `lookup` is a function from ids to engines, and the three operations update it at one id. -/

theorem lookup_delete (reg : Reg E) (a b : Nat) : lookup (delete reg a) b = if b = a then none else lookup reg b := by
  unfold lookup delete
  rw [List.find?_filter]
  by_cases h : b = a
  · rw [if_pos h, List.find?_eq_none.2 fun x _ => by simp [h]]; rfl
  · rw [if_neg h]; congr; funext x
    by_cases hx : x.1 = b <;> simp [hx, h]

theorem lookup_store (reg : Reg E) (a b : Nat) (e : E) :
    lookup (store reg a e) b = if b = a then some e else lookup reg b := by
  unfold lookup store
  dsimp only
  by_cases h : b = a
  · rw [if_pos h, List.find?_cons, show ((a, e).1 == b) = true from beq_iff_eq.2 h.symm]; rfl
  · rw [if_neg h, List.find?_cons, show ((a, e).1 == b) = false from beq_false_of_ne (Ne.symm h)]
    exact (lookup_delete reg a b).trans (if_neg h)

/-- a manager call is the addressed table's own step, and touches no other table -/
theorem lookup_call (reg : Reg E) (a b : Nat) (op : Op) :
    lookup (call estep nameOf failed reg a op).1 b =
      if b = a then (tstep estep nameOf failed (lookup reg a) op).1 else lookup reg b := by
  unfold call tstep
  cases hl : lookup reg a with
  | none =>
    by_cases h : b = a
    · rw [if_pos h, h]; exact hl
    · rw [if_neg h]
  | some e =>
    dsimp only
    by_cases hd : (deletes (nameOf op) && !failed (estep e op).2) = true
    · rw [if_pos hd, if_pos hd, lookup_delete]
      by_cases h : b = a
      · rw [if_pos h, if_pos h]
      · rw [if_neg h, if_neg h, lookup_store, if_neg h]
    · rw [if_neg hd, if_neg hd, lookup_store]

theorem call_out (reg : Reg E) (a : Nat) (op : Op) :
    (call estep nameOf failed reg a op).2 = (tstep estep nameOf failed (lookup reg a) op).2 := by
  unfold call tstep
  cases lookup reg a with
  | none => rfl
  | some e => dsimp only; split <;> rfl

/-- **C17 — isolation**: a manager call addressed to table `a` leaves every other table's engine untouched. -/
theorem C17_isolated (reg : Reg E) (a b : Nat) (op : Op) (h : b ≠ a) :
    lookup (call estep nameOf failed reg a op).1 b = lookup reg b :=
  (lookup_call ..).trans (if_neg h)

/-- **C17 — forwarding**: on a registered table the manager returns exactly what the engine's same-named
operation returns, and the table's engine ends in exactly the state that operation leaves it in (or is
forgotten, for a successful Close/Release). -/
theorem C17_forward (reg : Reg E) (a : Nat) (op : Op) (e : E) (hl : lookup reg a = some e) :
    (call estep nameOf failed reg a op).2 = .result (estep e op).2 ∧
    (lookup (call estep nameOf failed reg a op).1 a = some (estep e op).1 ∨
     (lookup (call estep nameOf failed reg a op).1 a = none ∧ deletes (nameOf op) = true ∧ failed (estep e op).2 = false)) := by
  rw [call_out, lookup_call, if_pos rfl, hl]
  unfold tstep
  dsimp only
  split
  · rename_i hd
    simp only [Bool.and_eq_true, Bool.not_eq_true'] at hd
    exact ⟨rfl, Or.inr ⟨rfl, hd⟩⟩
  · exact ⟨rfl, Or.inl rfl⟩

/-- **C17 — unknown id**: table-not-found, nothing changes. -/
theorem C17_not_found (reg : Reg E) (a : Nat) (op : Op) (hl : lookup reg a = none) :
    call estep nameOf failed reg a op = (reg, .notFound) := by
  unfold call; simp [hl]

/-- **C17 — closed or released tables are forgotten**: after a successful CloseTable/ReleaseTable every later
call to that id is table-not-found. -/
theorem C17_closed_forgotten (reg : Reg E) (a : Nat) (op op2 : Op) (e : E) (hl : lookup reg a = some e)
    (hd : deletes (nameOf op) = true) (hok : failed (estep e op).2 = false) :
    (call estep nameOf failed (call estep nameOf failed reg a op).1 a op2).2 = .notFound := by
  rw [call_out, lookup_call, if_pos rfl, hl]
  simp [tstep, hd, hok]

/-- on the rows of the table `deletes` reads the row's own flag: by `C17_delete_facts` the flag is a function of the
name, so whichever row of that name the search stops at agrees with it -/
theorem deletes_row (r : Facts.MgrRow) (hr : r ∈ Facts.managerTable) : deletes r.name = r.deletes := by
  have hall := List.all_eq_true.1 C17_delete_facts
  unfold deletes
  cases hf : Facts.managerTable.find? (fun r' => r'.name == r.name) with
  | none => exact absurd (beq_self_eq_true r.name) (List.find?_eq_none.1 hf r hr)
  | some r' =>
    have h1 := hall r' (List.mem_of_find?_eq_some hf)
    have h2 := hall r hr
    have hn := List.find?_some hf
    simp only [Bool.and_eq_true, beq_iff_eq] at h1 h2 hn
    rw [Option.any_some, ← h1.2, Bool.and_self, h1.1, h2.1, hn]

/-- which names delete: read from the regenerated table -/
theorem C17_deletes_exactly : deletes "CloseTable" = true ∧ deletes "ReleaseTable" = true ∧
    (Facts.managerTable.filter (fun r => deletes r.name)).map (·.name) = ["CloseTable", "ReleaseTable"] := by
  have row (i : Nat) (h : i < Facts.managerTable.length) := deletes_row _ (List.getElem_mem h)
  refine ⟨row 0 (by decide), row 17 (by decide), ?_⟩
  rw [List.filter_congr deletes_row]
  rfl

/-- a history of manager calls `(table id, operation)`, with each call's answer -/
def runCalls (reg : Reg E) : List (Nat × Op) → Reg E × List (Nat × Out R)
  | [] => (reg, [])
  | c :: t =>
    let r := call estep nameOf failed reg c.1 c.2
    let rest := runCalls r.1 t
    (rest.1, (c.1, r.2) :: rest.2)

/-- the same for one table on its own -/
def runTable (st : Option E) : List Op → Option E × List (Out R)
  | [] => (st, [])
  | op :: t =>
    let r := tstep estep nameOf failed st op
    let rest := runTable r.1 t
    (rest.1, r.2 :: rest.2)

/-- the operations of a history that are addressed to table `a` / the answers they got -/
def opsOf (a : Nat) (calls : List (Nat × Op)) : List Op := (calls.filter (fun c => c.1 == a)).map (·.2)
def outsOf (a : Nat) (outs : List (Nat × Out R)) : List (Out R) := (outs.filter (fun c => c.1 == a)).map (·.2)

/-- **C17 — for every history of manager calls, of any length, over any number of tables, for every engine**: what the
manager holds for table `a` at the end, and the answers the calls addressed to `a` got, are exactly those of table `a`'s
engine run on its own on the calls addressed to it — the same-named operations, in order, with table-not-found for as
long as the id is not (or no longer) registered.  Calls addressed to other tables do not appear in it at all. -/
theorem C17_refines (reg : Reg E) (calls : List (Nat × Op)) (a : Nat) :
    lookup (runCalls estep nameOf failed reg calls).1 a =
      (runTable estep nameOf failed (lookup reg a) (opsOf a calls)).1 ∧
    outsOf a (runCalls estep nameOf failed reg calls).2 =
      (runTable estep nameOf failed (lookup reg a) (opsOf a calls)).2 := by
  induction calls generalizing reg with
  | nil => exact ⟨rfl, rfl⟩
  | cons c t ih =>
    have ih' := ih (call estep nameOf failed reg c.1 c.2).1
    rw [lookup_call] at ih'
    by_cases hc : c.1 = a
    · subst hc
      rw [if_pos rfl] at ih'
      simp only [opsOf, outsOf, runCalls, runTable, beq_self_eq_true, List.filter_cons_of_pos, List.map_cons, call_out] at ih' ⊢
      exact ⟨ih'.1, congrArg _ ih'.2⟩
    · have hb : (c.1 == a) = false := by simpa using hc
      rw [if_neg (Ne.symm hc)] at ih'
      simp only [opsOf, outsOf, runCalls, hb, Bool.false_eq_true, not_false_eq_true, List.filter_cons_of_neg] at ih' ⊢
      exact ih'

-- non-vacuity: three tables, interleaved calls, a close in the middle
example : let estep : Nat → String → Nat × Bool := fun n _ => (n + 1, true)
    let reg : Reg Nat := { tables := [(1, 10), (2, 20), (3, 30)] }
    let calls := [(1, "PlayerJoin"), (2, "PlayerJoin"), (1, "CloseTable"), (1, "PlayerJoin"), (2, "UpdateBlind"), (4, "PauseTable")]
    lookup (runCalls estep id (fun r => !r) reg calls).1 1 = none ∧
    lookup (runCalls estep id (fun r => !r) reg calls).1 2 = some 22 ∧
    lookup (runCalls estep id (fun r => !r) reg calls).1 3 = some 30 ∧
    opsOf 1 calls = ["PlayerJoin", "CloseTable", "PlayerJoin"] := by decide +kernel

-- non-vacuity: a two-table registry over a toy engine
example : let estep : Nat → String → Nat × Bool := fun n _ => (n + 1, true)
    let reg : Reg Nat := { tables := [(1, 10), (2, 20)] }
    lookup (call estep id (fun r => !r) reg 1 "PlayerJoin").1 1 = some 11 ∧
    lookup (call estep id (fun r => !r) reg 1 "PlayerJoin").1 2 = some 20 ∧
    lookup (call estep id (fun r => !r) reg 1 "CloseTable").1 1 = none := by decide +kernel

end MG
