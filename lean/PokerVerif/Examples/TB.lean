import PokerVerif.TB
/-! The tables and histories on which the non-vacuity examples of the table properties are evaluated. -/
namespace TB

-- two players seated in on a four-seat table, started, the gate set up for the first hand
def exCfg : Meta := { maxSeat := 4, minPlayers := 2, rule := .default, mode := .ct }
def exBlind : Blind := { level := 1, ante := 0, dealer := 0, sb := 10, bb := 20 }
def exTable : State :=
  let s0 := create exCfg exBlind
  let s1 := (reserve s0 { id := 1, chips := 500, seat := 0 } []).1
  let s2 := (reserve s1 { id := 2, chips := 300, seat := 2 } []).1
  let s3 := (join (join s2 1).1 2).1
  setup (start s3) 0 [(1, 0), (2, 1)]

-- a whole turn of the hand cycle for the two players of `exTable`, and the next open
def exCycle : List Event :=
  [.reserve { id := 1, chips := 500, seat := 0 } [], .reserve { id := 2, chips := 300, seat := 2 } [], .join 1, .join 2,
   .start, .setup 0 [(1, 0), (2, 1)], .fire (some 0) true, .redeem 1 100, .settle [(0, 50), (1, -50)], .contReset,
   .tick false, .finish 1, .finish 2, .fire none true]

-- three buy-ins (one on a drawn seat), an add-on during the hand, a zero-sum result and a departure
def exHistory : List Event :=
  [.reserve { id := 1, chips := 500, seat := 0 } [], .reserve { id := 2, chips := 300, seat := 2 } [],
   .reserve { id := 3, chips := 200, seat := -1 } [3], .join 1, .join 2, .join 3, .start,
   .setup 0 [(1, 0), (2, 1), (3, 2)], .fire (some 0) true, .redeem 2 100, .settle [(0, -50), (1, 80), (2, -30)],
   .continue false, .leave [3]]

end TB
