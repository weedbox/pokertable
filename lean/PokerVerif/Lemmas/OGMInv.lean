import PokerVerif.OGM
/-! The invariant of the open-game gate (`Inv`): what holds of the ReadyGroup, its queue and its pending completions between
two set-ups, and that every event of an admissible history keeps it (`inv_run`).  C09 reads its results off `Inv`. -/
namespace OGM

def Quiet (s : St) : Prop := s.queue = [] ∧ s.pending = 0

def EvOK (s : St) : Ev → Prop
  | .setup _ ps => Quiet s ∧ (ps.map (·.2)).Nodup
  | .fromState _ ps => (ps.map (·.2.1)).Nodup
  | _ => True

def Adm : St → List Ev → Prop
  | _, [] => True
  | s, e :: es => EvOK s e ∧ Adm (step s e) es

/-- what a participant must have done for its index to count as ready -/
def Justified (s : St) (k : Int) : Prop :=
  s.timedOut = true ∨ ∃ p ∈ s.parts, p.idx = k ∧ p.id ∈ s.signalled

structure Inv (s : St) : Prop where
  rgTrue   : ∀ k, (k, true) ∈ s.rg → Justified s k
  queueOK  : ∀ k ∈ s.queue, Justified s k
  doneOK   : (0 < s.pending ∨ s.completed = true) → (s.timedOut = true ∨ ∀ p ∈ s.parts, p.id ∈ s.signalled)
  keys     : ∀ p ∈ s.parts, ∃ v, (p.idx, v) ∈ s.rg
  distinct : (s.parts.map (·.idx)).Nodup
  onceOK   : s.pending + s.firedNow.length ≤ (if s.completed then 1 else 0)
  reportOK : ∀ e ∈ s.firedNow, e.1 = s.gameCount ∧ e.2.map (·.id) = s.parts.map (·.id) ∧ e.2.all (·.ready) = true

/-! The two association-list updates: where an entry of the result comes from, and that no key is lost. -/

theorem mem_upsert {k : Int} {v : Bool} {l : List (Int × Bool)} {e : Int × Bool} (h : e ∈ upsert k v l) :
    e = (k, v) ∨ e ∈ l := by
  fun_induction upsert k v l <;> grind

theorem upsert_mem_key (k : Int) (v : Bool) (l : List (Int × Bool)) : (k, v) ∈ upsert k v l := by
  fun_induction upsert k v l <;> simp_all

theorem upsert_mem_old (k : Int) (v : Bool) (l : List (Int × Bool)) (k' : Int) (v' : Bool)
    (h : (k', v') ∈ l) : ∃ w, (k', w) ∈ upsert k v l := by
  fun_induction upsert k v l <;> grind

theorem upsert_false_vals (k : Int) (l : List (Int × Bool)) (h : ∀ e ∈ l, e.2 = false) :
    ∀ e ∈ upsert k false l, e.2 = false :=
  fun e he => (mem_upsert he).elim (fun h => h ▸ rfl) (h e)

theorem mem_setIfPresent {k : Int} {l : List (Int × Bool)} {e : Int × Bool} (h : e ∈ setIfPresent k l) :
    e = (k, true) ∨ e ∈ l := by
  fun_induction setIfPresent k l <;> grind

theorem setIfPresent_true (k : Int) (l : List (Int × Bool)) (k' : Int) (h : (k', true) ∈ setIfPresent k l) :
    (k', true) ∈ l ∨ k' = k :=
  (mem_setIfPresent h).symm.imp_right fun h => congrArg Prod.fst h

theorem setIfPresent_keys (k : Int) (l : List (Int × Bool)) (k' : Int) (v : Bool) (h : (k', v) ∈ l) :
    ∃ w, (k', w) ∈ setIfPresent k l := by
  fun_induction setIfPresent k l <;> grind

/-- a fold of upserts of one value `v`, whatever the list folded over and the way `key` reads a key off its elements
(`Setup` and both passes of `NewOpenGameManagerFromState`): an entry of the result was there before or carries `v` under
one of the new keys … -/
theorem mem_foldl_upsert {α : Type} (key : α → Int) (v : Bool) (ps : List α) (acc : List (Int × Bool)) {e : Int × Bool}
    (h : e ∈ ps.foldl (fun acc q => upsert (key q) v acc) acc) : e ∈ acc ∨ (e.2 = v ∧ ∃ q ∈ ps, key q = e.1) := by
  induction ps generalizing acc with
  | nil => exact Or.inl h
  | cons q t ih =>
    rcases ih _ h with h | ⟨hv, q', hq', hk⟩
    · rcases mem_upsert h with rfl | h
      · exact Or.inr ⟨rfl, q, List.mem_cons_self, rfl⟩
      · exact Or.inl h
    · exact Or.inr ⟨hv, q', List.mem_cons_of_mem _ hq', hk⟩

/-- … and every old key and every new key is a key of the result -/
theorem foldl_upsert_key {α : Type} (key : α → Int) (v : Bool) (ps : List α) (acc : List (Int × Bool)) (k : Int)
    (h : (∃ w, (k, w) ∈ acc) ∨ ∃ q ∈ ps, key q = k) : ∃ w, (k, w) ∈ ps.foldl (fun acc q => upsert (key q) v acc) acc := by
  induction ps generalizing acc with
  | nil => simpa using h
  | cons q t ih =>
    refine ih _ (h.elim (fun ⟨w, hw⟩ => Or.inl (upsert_mem_old _ _ _ _ w hw)) fun ⟨q', hq', hk⟩ => ?_)
    rcases List.mem_cons.mp hq' with rfl | hq'
    · exact Or.inl ⟨v, hk ▸ upsert_mem_key _ _ _⟩
    · exact Or.inr ⟨q', hq', hk⟩

-- `mem_foldl_upsert` and `foldl_upsert_key` are the general statements; the next three are their instances at
-- `key := (·.2)`, `v := false`, the fold `Setup` runs: no value but `false`, old keys kept, new keys present.

theorem foldl_upsert_false (ps : List (Nat × Int)) (acc : List (Int × Bool)) (h : ∀ e ∈ acc, e.2 = false) :
    ∀ e ∈ ps.foldl (fun acc (q : Nat × Int) => upsert q.2 false acc) acc, e.2 = false :=
  fun e he => (mem_foldl_upsert (·.2) false ps acc he).elim (h e) (·.1)

theorem foldl_upsert_keeps (ps : List (Nat × Int)) (acc : List (Int × Bool)) (k : Int) (v : Bool)
    (h : (k, v) ∈ acc) : ∃ w, (k, w) ∈ ps.foldl (fun acc (q : Nat × Int) => upsert q.2 false acc) acc :=
  foldl_upsert_key (·.2) false ps acc k (Or.inl ⟨v, h⟩)

theorem foldl_upsert_keys (ps : List (Nat × Int)) (acc : List (Int × Bool)) (q : Nat × Int) (hq : q ∈ ps) :
    ∃ w, (q.2, w) ∈ ps.foldl (fun acc (q : Nat × Int) => upsert q.2 false acc) acc :=
  foldl_upsert_key (·.2) false ps acc q.2 (Or.inr ⟨q, hq, rfl⟩)

theorem allReady_mem (rg : List (Int × Bool)) (h : allReady rg = true) (k : Int) (v : Bool) (hm : (k, v) ∈ rg) :
    v = true :=
  List.all_eq_true.mp h (k, v) hm

theorem map_idx_preserved (l : List Part) (f : Part → Part) (h : ∀ q, (f q).idx = q.idx) :
    (l.map f).map (·.idx) = l.map (·.idx) := by
  simp [h]

theorem nodup_map_inj {l : List Part} (hnd : (l.map (·.idx)).Nodup) {a b : Part}
    (ha : a ∈ l) (hb : b ∈ l) (hab : a.idx = b.idx) : a = b := by
  induction l with
  | nil => simp at ha
  | cons h t ih =>
    simp only [List.map_cons, List.nodup_cons, List.mem_map, not_exists, not_and] at hnd
    rcases List.mem_cons.mp ha with h1 | h1 <;> rcases List.mem_cons.mp hb with h2 | h2
    · rw [h1, h2]
    · subst h1; exact absurd hab.symm (hnd.1 b h2)
    · subst h2; exact absurd hab (hnd.1 a h1)
    · exact ih hnd.2 h1 h2

theorem justified_mono {s s' : St} (k : Int)
    (ht : s.timedOut = true → s'.timedOut = true)
    (hp : ∀ p ∈ s.parts, p.id ∈ s.signalled → ∃ p' ∈ s'.parts, p'.idx = p.idx ∧ p'.id ∈ s'.signalled)
    (h : Justified s k) : Justified s' k := by
  rcases h with h | ⟨p, hp1, hp2, hp3⟩
  · exact Or.inl (ht h)
  · obtain ⟨p', h1, h2, h3⟩ := hp p hp1 hp3
    exact Or.inr ⟨p', h1, by rw [h2, hp2], h3⟩

/-! The invariant under the elementary updates the events are made of: every event of `step` between two set-ups is a
composition of these (`inv_step`), so each field of `Inv` is argued once per thing that can disturb it. -/

namespace Inv
variable {s : St} (hi : Inv s)
include hi

theorem signal (id : Nat) : Inv { s with signalled := id :: s.signalled } :=
  have hJ k (h : Justified s k) : Justified { s with signalled := id :: s.signalled } k :=
    justified_mono (s := s) k (fun h => h) (fun p hp hs => ⟨p, hp, rfl, List.mem_cons_of_mem _ hs⟩) h
  { hi with rgTrue := fun k hk => hJ k (hi.rgTrue k hk), queueOK := fun k hk => hJ k (hi.queueOK k hk),
            doneOK := fun h => (hi.doneOK h).imp_right fun h p hp => List.mem_cons_of_mem _ (h p hp) }

theorem reflag (f : Part → Part) (hid : ∀ q, (f q).id = q.id) (hidx : ∀ q, (f q).idx = q.idx) :
    Inv { s with parts := s.parts.map f } :=
  have hJ k (h : Justified s k) : Justified { s with parts := s.parts.map f } k :=
    justified_mono (s := s) k (fun h => h) (fun p hp hs => ⟨f p, List.mem_map_of_mem hp, hidx p, (hid p).symm ▸ hs⟩) h
  { hi with
    rgTrue := fun k hk => hJ k (hi.rgTrue k hk)
    queueOK := fun k hk => hJ k (hi.queueOK k hk)
    doneOK := fun h => (hi.doneOK h).imp_right fun h p' hp' => by
      obtain ⟨p, hp, rfl⟩ := List.mem_map.mp hp'; exact (hid p).symm ▸ h p hp
    keys := fun p' hp' => by obtain ⟨p, hp, rfl⟩ := List.mem_map.mp hp'; exact (hidx p).symm ▸ hi.keys p hp
    distinct := (map_idx_preserved s.parts f hidx).symm ▸ hi.distinct
    reportOK := fun e he => by
      have : (s.parts.map f).map (·.id) = s.parts.map (·.id) := by simp [hid]
      exact this ▸ hi.reportOK e he }

theorem requeue (q : List Int) (hq : ∀ k ∈ q, Justified s k) : Inv { s with queue := q } :=
  { hi with queueOK := hq }

theorem regroup (rg : List (Int × Bool)) (ht : ∀ k, (k, true) ∈ rg → Justified s k)
    (hk : ∀ k v, (k, v) ∈ s.rg → ∃ w, (k, w) ∈ rg) : Inv { s with rg := rg } :=
  { hi with rgTrue := ht, keys := fun p hp => (hi.keys p hp).elim fun v hv => hk _ v hv }

/-- the group completes: every index is ready and justified, and with distinct indexes the participant an index is
justified by is the participant itself -/
theorem complete (hall : allReady s.rg = true) (hnc : s.completed = false) :
    Inv { s with completed := true, pending := s.pending + 1, timer := false } :=
  { hi with
    doneOK := fun _ => (Bool.eq_false_or_eq_true s.timedOut).imp_right fun ht p hp => by
      obtain ⟨v, hv⟩ := hi.keys p hp
      rcases hi.rgTrue p.idx (allReady_mem _ hall _ _ hv ▸ hv) with h | ⟨p', hp', hk, hs⟩
      · rw [ht] at h; cases h
      · exact nodup_map_inj hi.distinct hp' hp hk ▸ hs
    onceOK := by
      have := hi.onceOK; rw [hnc] at this
      show s.pending + 1 + s.firedNow.length ≤ 1
      rw [Nat.add_right_comm]; exact Nat.succ_le_succ this }

theorem fire (hp : s.pending ≠ 0) (hr : s.parts.all (·.ready) = true) :
    Inv { s with pending := s.pending - 1, fired := s.fired ++ [(s.gameCount, s.parts)],
                 firedNow := s.firedNow ++ [(s.gameCount, s.parts)] } :=
  { hi with
    doneOK := fun _ => hi.doneOK (Or.inl (Nat.pos_of_ne_zero hp))
    onceOK := by
      show s.pending - 1 + (s.firedNow ++ [(s.gameCount, s.parts)]).length ≤ _
      rw [List.length_append, List.length_singleton, ← Nat.add_assoc, Nat.add_right_comm,
        Nat.sub_add_cancel (Nat.pos_of_ne_zero hp)]
      exact hi.onceOK
    reportOK := fun e he => (List.mem_append.mp he).elim (hi.reportOK e) fun h => by
      obtain rfl := List.mem_singleton.mp h; exact ⟨rfl, rfl, hr⟩ }

/-- the time-out: from now on everything is justified -/
theorem expire (q : List Int) : Inv { s with timer := false, timedOut := true, queue := q } :=
  { hi with rgTrue := fun _ _ => Or.inl rfl, queueOK := fun _ _ => Or.inl rfl, doneOK := fun _ => Or.inl rfl }

end Inv

theorem inv_fresh {s : St} (hq : s.queue = []) (hp : s.pending = 0) (hc : s.completed = false) (hf : s.firedNow = [])
    (hd : (s.parts.map (·.idx)).Nodup) (hk : ∀ p ∈ s.parts, ∃ v, (p.idx, v) ∈ s.rg)
    (ht : ∀ k, (k, true) ∈ s.rg → Justified s k) : Inv s :=
  { rgTrue := ht, queueOK := by simp [hq], doneOK := by simp [hp, hc], keys := hk, distinct := hd,
    onceOK := by simp [hp, hf], reportOK := by simp [hf] }

theorem inv_init : Inv {} := inv_fresh rfl rfl rfl rfl .nil nofun nofun

theorem inv_step (s : St) (e : Ev) (hi : Inv s) (hok : EvOK s e) : Inv (step s e) := by
  cases e with
  | setup gc ps =>
    obtain ⟨⟨hq, hpend⟩, hnd⟩ := hok
    refine inv_fresh hq hpend rfl rfl (by rw [step, List.map_map]; exact hnd) ?_ ?_
    · intro p hp
      obtain ⟨q, hq, rfl⟩ := List.mem_map.mp hp
      exact foldl_upsert_keys ps [] q hq
    · intro k hk
      cases foldl_upsert_false ps [] (by simp) _ hk
  | fromState gc ps =>
    refine inv_fresh rfl rfl rfl rfl (by rw [step, List.map_map]; exact hok) ?_ ?_
    · intro p hp
      obtain ⟨q, hq, rfl⟩ := List.mem_map.mp hp
      exact foldl_upsert_key _ _ _ _ _ (Or.inl (foldl_upsert_key (·.2.1) false ps [] _ (Or.inr ⟨q, hq, rfl⟩)))
    · intro k hk
      rcases mem_foldl_upsert _ _ _ _ hk with h | ⟨_, q, hq, hqk⟩
      · rcases mem_foldl_upsert _ _ _ _ h with h | h
        · cases h
        · cases h.1
      · exact Or.inr ⟨_, List.mem_map_of_mem (List.mem_filter.mp hq).1, hqk, List.mem_map_of_mem hq⟩
  | ready id =>
    rw [step]
    cases hf : s.parts.find? (fun p => p.id == id) with
    | none => exact hi
    | some p =>
      have hid (q : Part) : (if (q.id == id) = true then { q with ready := true } else q).id = q.id := by split <;> rfl
      have hidx (q : Part) : (if (q.id == id) = true then { q with ready := true } else q).idx = q.idx := by split <;> rfl
      have h1 := (hi.signal id).reflag _ hid hidx
      refine h1.requeue _ fun k hk => ?_
      by_cases hst : s.started = true
      · rw [if_pos hst] at hk
        rcases List.mem_append.mp hk with hk | hk
        · exact h1.queueOK k hk
        · -- the index queued is that of the participant who has just signalled
          obtain rfl := List.mem_singleton.mp hk
          refine Or.inr ⟨_, List.mem_map_of_mem (List.mem_of_find?_eq_some hf), hidx p, ?_⟩
          have hpid := List.find?_some hf
          rw [hid p, eq_of_beq hpid]
          exact List.mem_cons_self
      · rw [if_neg hst] at hk; exact h1.queueOK k hk
  | consume =>
    rw [step]
    cases hqv : s.queue with
    | nil => exact hi
    | cons k rest =>
      have hq : ∀ k' ∈ k :: rest, Justified s k' := hqv ▸ hi.queueOK
      have h1 : Inv { s with queue := rest, rg := setIfPresent k s.rg } := (hi.requeue rest fun k' hk' => hq k' (List.mem_cons_of_mem _ hk')).regroup (setIfPresent k s.rg)
        (fun k' hk' => (setIfPresent_true k s.rg k' hk').elim (hi.rgTrue k') fun h => h ▸ hq k List.mem_cons_self)
        (setIfPresent_keys k s.rg)
      dsimp only
      by_cases hc : (allReady (setIfPresent k s.rg) && !s.completed) = true
      · rw [if_pos hc]
        rw [Bool.and_eq_true, Bool.not_eq_true'] at hc
        exact h1.complete hc.1 hc.2
      · rw [if_neg hc]; exact h1
  | complete =>
    rw [step]
    by_cases hp : s.pending = 0
    · rw [if_pos hp]; exact hi
    · rw [if_neg hp]
      exact (hi.reflag (fun q => { q with ready := true }) (fun _ => rfl) (fun _ => rfl)).fire hp
        (List.all_eq_true.2 fun q hq => by obtain ⟨_, _, rfl⟩ := List.mem_map.1 hq; rfl)
  | timeout =>
    rw [step]
    by_cases ht : (!s.timer) = true
    · rw [if_pos ht]; exact hi
    · rw [if_neg ht]; exact hi.expire _

theorem inv_run (s : St) (evs : List Ev) (hi : Inv s) (ha : Adm s evs) : Inv (run s evs) := by
  induction evs generalizing s with
  | nil => exact hi
  | cons e es ih => exact ih (step s e) (inv_step s e hi ha.1) ha.2

end OGM
