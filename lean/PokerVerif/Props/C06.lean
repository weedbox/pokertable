import PokerVerif.Lemmas.TBInv
import PokerVerif.Lemmas.TBLabels
import PokerVerif.Examples.TB
/-!
# C06 — Position labels and next-BB order agree with the button seats

Statement: in every hand of a default-rule table, labels go clockwise from the big-blind seat in the standard order
for the number of occupied position slots (dealt-in players plus a dead button or dead small blind): the player in
the big-blind seat is labelled bb, a dealt-in player in the small-blind seat sb (dealer and sb together heads-up),
no two players share a label, every dealt-in player has one, nobody else has any, and the hand engine receives the
same labels.  At settlement the published next-big-blind order lists exactly the players with chips, clockwise from
the seat after the current big blind.

Proved here: the facts about the label table regenerated from `position.go` and about the queue the model hands
out, for every slot count; that the open hands labels only to dealt-in players' entries through `setPositions`; the
next-BB list of the model is the spec's list.  The walk of `updatePlayerPositions` is factored into a *plan* computed from
the seat manager alone and its application to the player list (`C06_walk_is_a_plan`); for every seat manager and player
list meeting the C03 invariant the plan hands labels to dealt-in occupants only, each player at most one label, each label
at most once, in the standard order clockwise from the big-blind seat, whose dealt-in occupant gets `bb`
(`C06_placement`, `C06_only_dealt_in_are_labelled`, `C06_bb_first`, `C06_placement_for_every_history`).  Which seat the
k-th label lands on when the button or the small blind is dead is *not* claimed (D26 / D27 are counter-examples, kept as
witness theorems); that part stays with the `labelsOK` / `labelClaims` monitors on every opened hand of every run.
-/
namespace TB

/-- the table in `newPositions` was recognised, has a row for each of 3..10 players, each row has exactly that many
pairwise distinct labels and starts dealer, sb, bb -/
theorem C06_table_facts :
    Facts.positionTableRecognised = true ∧ Facts.positionRotateOffset = "2" ∧
    Facts.positionTable.map (·.1) = [10, 9, 8, 7, 6, 5, 4, 3] ∧
    Facts.positionTable.all (fun r => r.2.length == r.1 && r.2.take 3 == ["dealer", "sb", "bb"] &&
      (r.2.eraseDups.length == r.2.length)) = true := ⟨rfl, rfl, rfl, by decide +kernel⟩

/-- the queue of labels handed out from the big-blind seat: one entry per slot, `bb` first, then the early/middle/late
positions, `dealer` and `sb` last (heads-up: `bb`, then `dealer`+`sb` together); outside 2..10 slots there is none -/
theorem C06_queue (count : Nat) (h2 : 2 ≤ count) (h10 : count ≤ 10) :
    (labelQueue count).length = count ∧ (labelQueue count).head? = some ["bb"] ∧
    (if count = 2 then labelQueue count = [["bb"], ["dealer", "sb"]]
     else (labelQueue count).drop (count - 2) = [["dealer"], ["sb"]]) ∧
    ((labelQueue count).flatten.eraseDups.length = (labelQueue count).flatten.length) := by
  -- nine slot counts, one sweep
  revert h2; revert h10; revert count
  decide +kernel

theorem positionRow_outside (count : Nat) (h : count < 3 ∨ 10 < count) : positionRow count = [] := by
  have hall : Facts.positionTable.all (fun r => decide (3 ≤ r.1 ∧ r.1 ≤ 10)) = true := by decide +kernel
  rw [positionRow, List.find?_eq_none.2 fun r hr hc => ?_]
  have := of_decide_eq_true (List.all_eq_true.1 hall r hr)
  rw [eq_of_beq hc] at this
  omega

theorem C06_no_labels_outside (count : Nat) (h : count < 2 ∨ 10 < count) : labelQueue count = [] := by
  rcases h with h | h
  · rw [labelQueue, if_neg (mt beq_iff_eq.1 (Nat.ne_of_lt h)), if_neg (Nat.not_lt.2 (Nat.le_of_lt h))]
  · rw [labelQueue, if_neg (mt beq_iff_eq.1 (Nat.ne_of_gt (Nat.lt_trans (by decide) h))),
      if_pos (Nat.lt_trans (by decide) h), positionRow_outside count (.inr h)]; rfl

/-- rotating by two needs no reduction modulo the length: a list shorter than two is left as it is either way -/
theorem rotateLeft_two (l : List String) : rotateLeft l 2 = l.drop 2 ++ l.take 2 := by
  match l with
  | [] => rfl
  | [_] => simp [rotateLeft]
  | a :: b :: t => rw [rotateLeft, if_neg (show ¬ 2 > (a :: b :: t).length from Nat.not_lt.2 (Nat.le_add_left 2 t.length))]

theorem labelQueue_eq_standard (count : Nat) : labelQueue count = TBSpec.standardOrder count := by
  unfold labelQueue TBSpec.standardOrder
  by_cases h : (count == 2) = true
  · rw [if_pos h, if_pos h]
  · rw [if_neg h, if_neg h]
    show _ = ((positionRow count).drop 2 ++ (positionRow count).take 2).map _
    by_cases h' : count > 2
    · rw [if_pos h', rotateLeft_two]
    · rw [if_neg h', positionRow_outside count (.inl (Nat.lt_succ_of_le (Nat.not_lt.1 h')))]; rfl

/-- the model's label queue is the spec's standard order -/
theorem C06_queue_is_standard (count : Nat) (h2 : 2 ≤ count) (h10 : count ≤ 10) :
    labelQueue count = TBSpec.standardOrder count := labelQueue_eq_standard count

/-- no label occurs twice in a queue, whatever the slot count -/
theorem labelQueue_nodup (count : Nat) : (labelQueue count).Nodup := by
  by_cases h : count ≤ 10
  · revert h; revert count
    decide +kernel
  · rw [C06_no_labels_outside count (.inr (Nat.lt_of_not_le h))]; exact List.nodup_nil

/-- **C06 — `updatePlayerPositions` is "work out from the seat manager who gets which label, then write it down"**: the
walk over the seats never looks at the player list (`labelPlan` is a function of the seat manager alone) -/
theorem C06_walk_is_a_plan (sm : SM.State) (ps : List Player) :
    assignPositions sm ps = (labelPlan sm).map (applyPlan ps) := assignPositions_eq_plan sm ps

/-- **C06 — placement of the labels**: whenever the label walk succeeds (big-blind seat set, no id on two seats of the seat
manager or twice in the player list — the C03 invariant), there is a plan `pl` of *(id, label)* pairs such that
1. the ids are, in walk order (clockwise from the big-blind seat), dealt-in occupants of seats of the table, nobody twice;
2. the labels are, in the same order, labels of the standard queue for the slot count (`C06_queue_is_standard`), none twice;
3. afterwards a player whose id is in the plan carries exactly the label paired with it, and every other player — in
   particular everybody who is not dealt in — is exactly as he was.
Hence no two players share a label, nobody but dealt-in players gets one, and the labels keep the standard order clockwise
from the big blind.  (Which *seat* the k-th label lands on when the button or the small blind is dead is not claimed:
findings D26 / D27 show the walk can hand `dealer` to the small-blind seat.) -/
theorem C06_placement (sm : SM.State) (ps ps' : List Player) (h : assignPositions sm ps = some ps')
    (hb : 0 ≤ sm.bb) (hu : SM.IdsUnique sm) (hnd : (ps.map (·.id)).Nodup) :
    ∃ pl : Plan, labelPlan sm = some pl ∧
      (pl.map (·.1)).Sublist ((walkFromBB sm).filterMap (activeIdAt sm)) ∧ (pl.map (·.1)).Nodup ∧
      (pl.map (·.2)).Sublist (labelQueue (slotCount sm)) ∧ (pl.map (·.2)).Nodup ∧
      ∀ k : Nat, ps'[k]? = (ps[k]?).map (fun (p : Player) =>
        match pl.find? (fun e => e.1 == p.id) with
        | some e => { p with positions := e.2 }
        | none => p) := by
  rw [assignPositions_eq_plan] at h
  obtain ⟨pl, hp, rfl⟩ := Option.map_eq_some_iff.mp h
  obtain ⟨s1, s2⟩ := labelPlan_sublists sm pl hp
  have n1 := (walk_activeIds_nodup sm hb hu).sublist s1
  refine ⟨pl, hp, s1, n1, s2, (labelQueue_nodup _).sublist s2, fun k => ?_⟩
  rw [applyPlan_eq_map pl ps hnd n1, List.getElem?_map]
  rfl

/-- every id in the plan is the occupant of a seat of the table who is dealt in (`Active()` in the seat manager) -/
theorem C06_only_dealt_in_are_labelled (sm : SM.State) (pl : Plan) (h : labelPlan sm = some pl) (e : Nat × List String)
    (he : e ∈ pl) : ∃ seat : Int, 0 ≤ seat ∧ seat < sm.maxSeat ∧ SM.idAt sm seat = some e.1 ∧ SM.activeAt sm.seats seat = true := by
  have hm : e.1 ∈ (walkFromBB sm).filterMap (activeIdAt sm) :=
    (labelPlan_sublists sm pl h).1.subset (List.mem_map.mpr ⟨e, he, rfl⟩)
  obtain ⟨seat, _, hs⟩ := List.mem_filterMap.mp hm
  exact ⟨seat, activeIdAt_idAt sm seat e.1 hs⟩

/-- **C06 — … in every reachable state**: for the table reached from `CreateTable` by any history (legal recorded seat
draws), whichever way the seat manager moved the buttons (`sm'` with the same occupants, as `InitPositions` /
`RotatePositions` leave them, and a big-blind seat), a successful `openGame` labels the players as `C06_placement` says -/
theorem C06_placement_for_every_history (cfg : Meta) (b : Blind) (evs : List Event) (hl : DrawsLegal (create cfg b) evs)
    (sm' : SM.State) (hid : ∀ i, SM.idAt sm' i = SM.idAt (run (create cfg b) evs).sm i)
    (hmax : sm'.maxSeat = (run (create cfg b) evs).sm.maxSeat) (hb : 0 ≤ sm'.bb)
    (hop : (openTable (run (create cfg b) evs) sm').2 = .opened) :
    ∃ pl : Plan, labelPlan sm' = some pl ∧ (pl.map (·.1)).Nodup ∧
      (pl.map (·.2)).Sublist (labelQueue (slotCount sm')) ∧ (pl.map (·.2)).Nodup ∧
      (∀ e ∈ pl, ∃ seat : Int, 0 ≤ seat ∧ seat < sm'.maxSeat ∧ SM.idAt sm' seat = some e.1 ∧ SM.activeAt sm'.seats seat = true) ∧
      ∀ k : Nat, ((openTable (run (create cfg b) evs) sm').1.players[k]?).map (fun (p : Player) => (p.id, p.positions)) =
        ((run (create cfg b) evs).players[k]?).map (fun (p : Player) =>
          (p.id, match pl.find? (fun e => e.1 == p.id) with | some e => e.2 | none => p.positions)) := by
  obtain ⟨hbk, hag, _, _⟩ := run_inv4 _ evs (create_inv4 cfg b) hl
  generalize run (create cfg b) evs = t at *
  obtain ⟨ps, gi, ps2, hm, _, hap, heq⟩ := openTable_opened_eq t sm' hop
  -- the seat manager that moved the buttons holds the table's occupants, so no id twice
  have hu : SM.IdsUnique sm' := fun i j x hi0 hin hj0 hjn hxi hxj =>
    sm_unique t hbk hag i j x hi0 (hmax ▸ hin) hj0 (hmax ▸ hjn) (hid i ▸ hxi) (hid j ▸ hxj)
  obtain ⟨pl, hp, _, n1, s2, n2, hfin⟩ := C06_placement sm' ps ps2 hap hb hu
    (dealIn_map (·.id) (fun _ _ => rfl) sm' _ _ hm ▸ hag.ids)
  refine ⟨pl, hp, n1, s2, n2, C06_only_dealt_in_are_labelled sm' pl hp, fun k => ?_⟩
  rw [heq]
  show (ps2[k]?).map _ = _
  rw [hfin k, dealIn_eq sm' _ _ hm, List.getElem?_map]
  cases t.players[k]? with
  | none => rfl
  | some q => simp only [Option.map_some]; cases pl.find? (fun e => e.1 == q.id) <;> rfl

/-- **C06 — the player in the big-blind seat is labelled bb**: the walk starts on the big-blind seat; when its occupant
is dealt in (C04: it always is after an accepted rotation) and the slot count is one the label table knows (2..10), he is
the first of the plan and his label is `bb` -/
theorem C06_bb_first (sm : SM.State) (pl : Plan) (h : labelPlan sm = some pl) (hb0 : 0 ≤ sm.bb) (hbn : sm.bb < sm.maxSeat)
    (id : Nat) (hact : activeIdAt sm sm.bb = some id) (h2 : 2 ≤ slotCount sm) (h10 : slotCount sm ≤ 10) :
    pl.head? = some (id, ["bb"]) :=
  labelPlan_head sm pl h hb0 hbn id hact _ (C06_queue (slotCount sm) h2 h10).2.1

-- non-vacuity of `C06_placement` / `C06_bb_first`: the 4-seat table of the example below just after its first open — the
-- hypotheses hold, the plan is the three dealt-in players clockwise from the big blind with bb, dealer, sb
example : let t := (gateFire (setup (start (join (join (join (reserve (reserve (reserve (create exCfg exBlind)
      { id := 1, chips := 500, seat := 0 } []).1 { id := 2, chips := 300, seat := 2 } []).1 { id := 3, chips := 200, seat := 3 } []).1
      1).1 2).1 3).1) 0 [(1, 0), (2, 1), (3, 2)]) (some 0) true).1
    0 ≤ t.sm.bb ∧ t.sm.bb < t.sm.maxSeat ∧ slotCount t.sm = 3 ∧ activeIdAt t.sm t.sm.bb = some 1 ∧
    labelPlan t.sm = some [(1, ["bb"]), (2, ["dealer"]), (3, ["sb"])] ∧
    (walkFromBB t.sm).filterMap (activeIdAt t.sm) = [1, 2, 3] := by decide +kernel

/-- D26: the button and the small blind bust in the same hand and newcomers sit beyond them: the big blind passes the
dead button seat. 6 seats, hand played with D=0 SB=1 BB=5; seats 0 and 1 bust, newcomers wait on seats 2 and 4. -/
def witnessD26 : SM.State :=
  { maxSeat := 6, rule := .default, isInit := true, dealer := 0, sb := 1, bb := 5,
    seats := SM.seatsOfList [
      some { id := 1, isIn := true, between := false, hasChips := false },
      some { id := 2, isIn := true, between := false, hasChips := false },
      some { id := 5, isIn := true, between := true, hasChips := true }, none,
      some { id := 4, isIn := true, between := true, hasChips := true },
      some { id := 3, isIn := true, between := false, hasChips := true }] }

def witnessD26Players : List Player :=
  [{ id := 1, seat := 0, bankroll := 0, isIn := true }, { id := 2, seat := 1, bankroll := 0, isIn := true },
   { id := 3, seat := 5, bankroll := 2349, isIn := true }, { id := 4, seat := 4, bankroll := 104, isIn := true },
   { id := 5, seat := 2, bankroll := 267, isIn := true }]

/-- the rotation is accepted with D=1 (dead), SB=5, BB=2 — the button seat lies between the small and the big blind —
and the label walk gives the player on the small-blind seat `dealer`; nobody is labelled `sb`: the full clause
"a dealt-in player in the small-blind seat is labelled sb" fails -/
theorem C06_sb_label_fails_on_witness :
    (SM.rotateDefault witnessD26).2 = .ok ∧
    ((SM.rotateDefault witnessD26).1.dealer, (SM.rotateDefault witnessD26).1.sb, (SM.rotateDefault witnessD26).1.bb) = (1, 5, 2) ∧
    (assignPositions (SM.rotateDefault witnessD26).1 witnessD26Players).map (fun ps => ps.map (fun p => (p.id, p.positions))) =
      some [(1, []), (2, []), (3, ["dealer"]), (4, ["ug"]), (5, ["bb"])] := by decide +kernel

-- … and on the D26 witness (dead button, dead small blind) the plan is still made of dealt-in players and queue labels in
-- order, each once — but the small-blind seat's player is handed `dealer`
example : labelPlan (SM.rotateDefault witnessD26).1 = some [(5, ["bb"]), (4, ["ug"]), (3, ["dealer"])] ∧
    labelQueue (slotCount (SM.rotateDefault witnessD26).1) = [["bb"], ["ug"], ["dealer"], ["sb"]] := by decide +kernel

/-- D27: a player who reserved before the first hand and sat in during it (no waiting flag) on the seat between the small
and the big blind; the small blind busts and leaves. 4 seats, hand played with D=3 SB=0 BB=2, seat 0 now empty. -/
def witnessD27 : SM.State :=
  { maxSeat := 4, rule := .default, isInit := true, dealer := 3, sb := 0, bb := 2,
    seats := SM.seatsOfList [none,
      some { id := 4, isIn := true, between := false, hasChips := true },
      some { id := 2, isIn := true, between := false, hasChips := true },
      some { id := 1, isIn := true, between := false, hasChips := true }] }

def witnessD27Players : List Player :=
  [{ id := 1, seat := 3, bankroll := 2323, isIn := true }, { id := 2, seat := 2, bankroll := 372, isIn := true },
   { id := 4, seat := 1, bankroll := 192, isIn := true }]

/-- the rotation is accepted with D=0 (dead, empty), SB=2, BB=3; the player on seat 1 is dealt in *between the button and
the small blind*; the label walk gives him `ug` and the player on the small-blind seat `dealer`, nobody `sb` -/
theorem C06_between_button_and_sb_fails_on_witness :
    (SM.rotateDefault witnessD27).2 = .ok ∧
    ((SM.rotateDefault witnessD27).1.dealer, (SM.rotateDefault witnessD27).1.sb, (SM.rotateDefault witnessD27).1.bb) = (0, 2, 3) ∧
    SM.activeAt (SM.rotateDefault witnessD27).1.seats 1 = true ∧
    (assignPositions (SM.rotateDefault witnessD27).1 witnessD27Players).map (fun ps => ps.map (fun p => (p.id, p.positions))) =
      some [(1, ["bb"]), (2, ["dealer"]), (4, ["ug"])] := by decide +kernel

-- non-vacuity + an end-to-end instance: a 4-seat table, three dealt in, labels as the spec's monitor demands
example : let t := gateFire (setup (start (join (join (join (reserve (reserve (reserve (create exCfg exBlind)
      { id := 1, chips := 500, seat := 0 } []).1 { id := 2, chips := 300, seat := 2 } []).1 { id := 3, chips := 200, seat := 3 } []).1
      1).1 2).1 3).1) 0 [(1, 0), (2, 1), (3, 2)]) (some 0) true
    t.2 = .opened ∧ TBSpec.labelsOK (TBSpec.ofState { t.1 with status := .opened }) = true ∧
    TBSpec.labelClaims (TBSpec.ofState t.1) = true ∧
    t.1.players.map (·.positions) = [["bb"], ["dealer"], ["sb"]] := by decide +kernel

end TB
