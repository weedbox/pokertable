import PokerVerif.Lemmas.SMPlace
/-!
# What departures do to the occupants

`clearSeats` empties the listed seats and nothing else (`clearSeats_apply`); `RemoveSeats` clears the seats where
`GetSeatID` finds the leavers.  So a departure keeps the ids unique, under uniqueness a seat shows afterwards whom it showed
unless he left, and taking a just-placed batch out again gives back the state.
-/
namespace SM

theorem clearSeats_apply (s : Seats) (ks : List Int) (j : Int) : clearSeats s ks j = if j ∈ ks then none else s j := by
  induction ks generalizing s with
  | nil => rfl
  | cons k t ih =>
    rw [clearSeats, ih, setSeat]
    by_cases ht : j ∈ t
    · rw [if_pos ht, if_pos (List.mem_cons_of_mem k ht)]
    · by_cases hk : j = k
      · rw [if_neg ht, if_pos hk, if_pos (hk ▸ List.mem_cons_self)]
      · rw [if_neg ht, if_neg hk, if_neg fun h => (List.mem_cons.1 h).elim hk ht]

theorem clearSeats_other (s : Seats) (ks : List Int) (j : Int) (h : j ∉ ks) : clearSeats s ks j = s j := by
  rw [clearSeats_apply, if_neg h]

theorem clearSeats_mem (s : Seats) (ks : List Int) (j : Int) (h : j ∈ ks) : clearSeats s ks j = none := by
  rw [clearSeats_apply, if_pos h]

theorem remove_maxSeat (st : State) (ids : List Nat) : (remove st ids).1.maxSeat = st.maxSeat := (remove_atomic st ids).buttons.maxSeat

theorem remove_seat (st : State) (ids : List Nat) (i : Int) :
    (remove st ids).1.seats i = st.seats i ∨ (remove st ids).1.seats i = none := by
  rcases remove_cases st ids with ⟨_, h⟩ | ⟨_, h⟩ <;> rw [h]
  · exact .inl rfl
  · by_cases hc : i ∈ ids.map (seatOf st)
    · exact .inr (clearSeats_mem _ _ i hc)
    · exact .inl (clearSeats_other _ _ i hc)

theorem remove_unique (st : State) (hu : IdsUnique st) (ids : List Nat) (hok : (remove st ids).2 = .ok) :
    IdsUnique (remove st ids).1 := by
  intro i j x hi0 hin hj0 hjn hxi hxj
  rw [remove_maxSeat] at hin hjn
  -- a seat that shows somebody after the departure is as it was
  have keep : ∀ k, idAt (remove st ids).1 k = some x → idAt st k = some x := fun k hk => by
    rcases remove_seat st ids k with h | h <;> rw [idAt, h] at hk
    · exact hk
    · cases hk
  exact hu i j x hi0 hin hj0 hjn (keep i hxi) (keep j hxj)

theorem remove_id_iff (st : State) (hu : IdsUnique st) (ids : List Nat) (hok : (remove st ids).2 = .ok)
    (i : Int) (h0 : 0 ≤ i) (hn : i < st.maxSeat) (x : Nat) :
    idAt (remove st ids).1 i = some x ↔ idAt st i = some x ∧ x ∉ ids := by
  rcases remove_cases st ids with ⟨_, h⟩ | ⟨hhas, h⟩ <;> rw [h] at hok ⊢
  · cases hok
  show (clearSeats _ _ i).map _ = _ ↔ _
  rw [clearSeats_apply]
  by_cases hc : i ∈ ids.map (seatOf st)
  · -- a cleared seat is where `GetSeatID` found somebody of the list
    rw [if_pos hc]
    obtain ⟨y, hy, rfl⟩ := List.mem_map.1 hc
    have hiy := (seatOf_found st y (bne_iff_ne.1 (hhas y hy))).2.2
    exact ⟨nofun, fun ⟨hix, hx⟩ => absurd (Option.some.inj (hiy.symm.trans hix) ▸ hy) hx⟩
  · -- and whoever of the list sits on a seat of the table is found there
    rw [if_neg hc]
    exact ⟨fun hix => ⟨hix, fun hx => hc (List.mem_map.2 ⟨x, hx, seatOf_eq st hu x i h0 hn hix⟩)⟩, And.left⟩

-- The release of a just-placed batch: what a refused `batchAddPlayers` does with the fixed seats it had already given.

theorem release_eq (st : State) (hu : IdsUnique st) (b : List (Nat × Int)) (hp : Placeable st b) :
    (remove (placeAll st b) (b.map (·.1))).1 = st := by
  have hat := placeAll_at st b hp.seats
  have hm := placeAll_maxSeat st b
  -- where `GetSeatID` finds somebody of the batch is where he was put
  have hso : ∀ e ∈ b, seatOf (placeAll st b) e.1 = e.2 := fun e he =>
    seatOf_eq _ (placeAll_unique st b hu hp) e.1 e.2 (hp.empty e he).1 (hm ▸ (hp.empty e he).2.1) (hat e he)
  rcases remove_cases (placeAll st b) (b.map (·.1)) with ⟨⟨x, hx, hno⟩, _⟩ | ⟨_, h⟩
  · -- everybody of the batch has just been placed
    obtain ⟨e, he, rfl⟩ := List.mem_map.1 hx
    rw [(hasPlayer_iff _ _).2 ⟨e.2, (hp.empty e he).1, hm ▸ (hp.empty e he).2.1, hat e he⟩] at hno
    cases hno
  · -- the targets, which were empty, are cleared; no other seat was touched
    have hc : clearSeats (placeAll st b).seats ((b.map (·.1)).map (seatOf (placeAll st b))) = st.seats := by
      funext i
      rw [clearSeats_apply, List.map_map, List.map_congr_left (g := (·.2)) hso]
      by_cases hi : i ∈ b.map (·.2)
      · obtain ⟨e, he, rfl⟩ := List.mem_map.1 hi
        rw [if_pos hi]; exact (Option.map_eq_none_iff.1 (hp.empty e he).2.2).symm
      · rw [if_neg hi]; exact placeAll_other st b i fun e he h => hi (List.mem_map.2 ⟨e, he, h⟩)
    rw [h, hc, placeAll_frame]

/-- giving the just-placed fixed seats back leaves the seats that were occupied before as they were -/
theorem release_oldKept (st : State) (b : List (Nat × Int))
    (he : ∀ e ∈ b, 0 ≤ e.2 ∧ e.2 < st.maxSeat ∧ idAt st e.2 = none)
    (hf : ∀ e ∈ b, ∀ i : Int, 0 ≤ i → i < st.maxSeat → idAt st i ≠ some e.1)
    (i : Int) (h0 : 0 ≤ i) (hn : i < st.maxSeat) (hocc : idAt st i ≠ none) :
    (remove (placeAll st b) (b.map (·.1))).1.seats i = st.seats i := by
  have hpo : (placeAll st b).seats i = st.seats i :=
    placeAll_other st b i (fun e he' hc => hocc (by rw [← hc]; exact (he e he').2.2))
  rcases remove_cases (placeAll st b) (b.map (·.1)) with ⟨_, h⟩ | ⟨hhas, h⟩ <;> rw [h]
  · exact hpo
  · show clearSeats _ _ i = _
    rw [clearSeats_other _ _ _ ?_]; exact hpo
    -- a cleared seat shows somebody of the batch, and nobody of the batch was at the table
    intro hm
    obtain ⟨x, hx, rfl⟩ := List.mem_map.mp hm
    obtain ⟨e, hem, rfl⟩ := List.mem_map.mp hx
    have hfound := (seatOf_found (placeAll st b) e.1 (bne_iff_ne.mp (hhas _ hx))).2.2
    rw [idAt, hpo] at hfound
    exact hf e hem _ h0 hn hfound

end SM
