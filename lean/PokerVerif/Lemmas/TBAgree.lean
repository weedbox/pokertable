import PokerVerif.Lemmas.TBBooked
import PokerVerif.Lemmas.SMSeats
/-!
# Seat manager and table name the same occupant for every seat

`Agree s`: for every seat of the table the id the seat manager holds there is the id the table shows there (seat map →
player list), the two agree on the seat count, and no id is listed twice.  `Quiet a b`: an operation that changes neither
the listed ids nor the seat manager's occupants.  Everything but arrivals and departures is quiet.

On a consistent table the agreement says who is listed: the seat manager holds `x` on a seat iff a listed player `x` sits
there (`occId_eq_some`, `Agree.holds`, `Agree.of_holds`).  Departures and arrivals are shown in that form, from what the seat
manager did (`SM.remove_id_iff`; `batchAdd_legal_cases`: one batch of placements on empty seats) and what the list became (the
players that stay; the newcomers behind the old list).  `Inv` is `Booked` and `Agree` together.
-/
namespace TB

/-- the id the table shows on a seat -/
def occId (m : List Int) (ps : List Player) (seat : Int) : Option Nat :=
  match seatMapGet m seat with
  | some pi => if 0 ≤ pi then (ps[pi.toNat]?).map (·.id) else none
  | none => none

structure Agree (s : State) : Prop where
  maxSeat : s.sm.maxSeat = s.cfg.maxSeat
  seats : ∀ seat : Int, 0 ≤ seat → seat < s.cfg.maxSeat → SM.idAt s.sm seat = occId s.seatMap s.players seat
  ids : (s.players.map (·.id)).Nodup

/-- nothing about who is listed and who the seat manager holds where has changed -/
structure Quiet (a b : State) : Prop where
  ids : a.players.map (·.id) = b.players.map (·.id)
  smIds : ∀ i, SM.idAt a.sm i = SM.idAt b.sm i
  smMax : a.sm.maxSeat = b.sm.maxSeat

theorem occId_congr (m : List Int) (ps ps' : List Player) (h : ps'.map (·.id) = ps.map (·.id)) (seat : Int) :
    occId m ps' seat = occId m ps seat := by
  unfold occId
  cases seatMapGet m seat with
  | none => rfl
  | some pi =>
    simp only
    split
    · exact getElem?_of_map_eq (·.id) ps ps' h pi.toNat
    · rfl

theorem Agree.of_quiet {a b : State} (hq : Quiet a b) (hs : SeatsEq a b) (w : Agree b) : Agree a := by
  refine ⟨by rw [hq.smMax, hs.2.2]; exact w.maxSeat, ?_, by rw [hq.ids]; exact w.ids⟩
  intro seat h0 hn
  rw [hq.smIds, hs.1, occId_congr _ _ _ hq.ids, hs.2.2] at *
  exact w.seats seat h0 hn

theorem calm_quiet (s : State) (e : Event) (h : Calm s e) : Quiet (step s e) s :=
  have k := calm_keeps s e h
  ⟨k.players (·.id) (.inr fun _ _ => rfl) (fun _ _ => rfl) (.inr fun _ _ => rfl),
    k.seats (·.id) (fun _ _ => rfl) (fun _ _ => rfl) (.inr fun _ _ => rfl), k.maxSeat⟩

/-- on a consistent table a seat shows `x` iff a listed player with id `x` sits on it: what turns the agreement, stated
through seat-map entries and list indices, into a statement about who is listed -/
theorem occId_eq_some {m : List Int} {ps : List Player} (w : MapWF m ps) {seat : Int} {x : Nat} :
    occId m ps seat = some x ↔ ∃ p ∈ ps, p.seat = seat ∧ p.id = x := by
  constructor
  · intro h
    unfold occId at h
    split at h
    · rename_i pi hg
      split at h
      · rename_i h0
        obtain ⟨p, hp, hpx⟩ := Option.map_eq_some_iff.mp h
        obtain ⟨p', hp', hs⟩ := w.entries seat pi hg h0
        cases hp.symm.trans hp'
        exact ⟨p, List.mem_of_getElem? hp, hs, hpx⟩
      · cases h
    · cases h
  · rintro ⟨p, hp, rfl, rfl⟩
    obtain ⟨i, hi⟩ := List.mem_iff_getElem?.mp hp
    rw [occId, w.players i p hi]
    simp [hi]

theorem Agree.holds {s : State} (ha : Agree s) (hb : Booked s) {seat : Int} (h0 : 0 ≤ seat) (hn : seat < s.cfg.maxSeat) {x : Nat} :
    SM.idAt s.sm seat = some x ↔ ∃ p ∈ s.players, p.seat = seat ∧ p.id = x := by
  rw [ha.seats seat h0 hn]; exact occId_eq_some hb.1.1

theorem Agree.at_player {s : State} (ha : Agree s) (hb : Booked s) {p : Player} (hp : p ∈ s.players) :
    SM.idAt s.sm p.seat = some p.id :=
  (ha.holds hb (hb.seat_range hp).1 (hb.seat_range hp).2).mpr ⟨p, hp, rfl, rfl⟩

theorem Agree.of_holds {s : State} (w : MapWF s.seatMap s.players) (hm : s.sm.maxSeat = s.cfg.maxSeat)
    (h : ∀ seat : Int, 0 ≤ seat → seat < s.cfg.maxSeat → ∀ x,
      SM.idAt s.sm seat = some x ↔ ∃ p ∈ s.players, p.seat = seat ∧ p.id = x)
    (hids : (s.players.map (·.id)).Nodup) : Agree s :=
  ⟨hm, fun seat h0 hn => Option.ext fun x => (h seat h0 hn x).trans (occId_eq_some w).symm, hids⟩

theorem sm_unique (s : State) (hb : Booked s) (ha : Agree s) : SM.IdsUnique s.sm := by
  intro i j x hi0 hin hj0 hjn hxi hxj
  rw [ha.maxSeat] at hin hjn
  obtain ⟨p, hp, rfl, rfl⟩ := (ha.holds hb hi0 hin).mp hxi
  obtain ⟨q, hq, rfl, hqp⟩ := (ha.holds hb hj0 hjn).mp hxj
  rw [SM.pairwise_inj Player.id _ (List.pairwise_map.mp ha.ids) q hq p hp hqp]

theorem free_of_sm_none (s : State) (hb : Booked s) (ha : Agree s) (seat : Int) (h0 : 0 ≤ seat) (hn : seat < s.cfg.maxSeat)
    (he : SM.idAt s.sm seat = none) : seatMapGet s.seatMap seat = some (-1) :=
  MapTight.free _ _ hb.1 seat h0 (by rw [hb.2]; exact hn) fun p hp hs => by
    have := ha.at_player hb hp
    rw [hs, he] at this; cases this

theorem batchRemove_agree (s : State) (ids : List Nat) (hb : Booked s) (ha : Agree s)
    (hnp : (batchRemove s ids).2 ≠ .panic) : Agree (batchRemove s ids).1 := by
  have hb' := batchRemove_booked s ids hb
  rcases batchRemove_cases s ids with ⟨_, h⟩ | ⟨h, _⟩ | ⟨m, _, hok, _, _, h⟩
  · rw [h]; exact ha
  · rw [h] at hnp; exact absurd rfl hnp
  · rw [h] at hb' ⊢
    refine Agree.of_holds hb'.1.1 ((SM.remove_maxSeat _ _).trans ha.maxSeat) (fun seat h0 hn x => ?_)
      (ha.ids.sublist (List.filter_sublist.map _))
    -- the seat manager still holds on a seat whom it held unless he left; the list keeps whom it had unless he left
    show SM.idAt (SM.remove s.sm ids).1 seat = some x ↔ ∃ p ∈ s.players.filter _, _
    rw [SM.remove_id_iff s.sm (sm_unique s hb ha) ids hok seat h0 (ha.maxSeat ▸ hn), ha.holds hb h0 hn]
    constructor
    · rintro ⟨⟨p, hp, hs, rfl⟩, hx⟩
      exact ⟨p, List.mem_filter.mpr ⟨hp, by simpa using hx⟩, hs, rfl⟩
    · rintro ⟨p, hp, hs, rfl⟩
      obtain ⟨hp, hx⟩ := List.mem_filter.mp hp
      exact ⟨⟨p, hp, hs, rfl⟩, by simpa using hx⟩

/-- what the seat manager holds after an accepted `batchAddPlayers`, seat by seat, and where it put each newcomer -/
structure Placed (s : State) (js : List Join) (sm' : SM.State) : Prop where
  maxSeat : sm'.maxSeat = s.sm.maxSeat
  unique : SM.IdsUnique s.sm → SM.IdsUnique sm'
  each : ∀ j ∈ js, ∃ seat : Int, 0 ≤ seat ∧ seat < s.sm.maxSeat ∧ SM.idAt sm' seat = some j.id ∧ SM.idAt s.sm seat = none
  others : ∀ seat : Int, (∀ j ∈ js, SM.idAt sm' seat ≠ some j.id) → SM.idAt sm' seat = SM.idAt s.sm seat
  fresh : ∀ j ∈ js, ∀ i : Int, 0 ≤ i → i < s.sm.maxSeat → SM.idAt s.sm i ≠ some j.id

theorem Placed.of_placeable (s : State) (js : List Join) (b : List (Nat × Int)) (pb : SM.Placeable s.sm b)
    (hn : ∀ x, x ∈ b.map (·.1) ↔ x ∈ js.map (·.id)) : Placed s js (SM.placeAll s.sm b) := by
  have hat := SM.placeAll_at s.sm b pb.seats
  have cover : ∀ j ∈ js, ∃ e ∈ b, e.1 = j.id := fun j hj => List.mem_map.mp ((hn j.id).mpr (List.mem_map_of_mem hj))
  refine ⟨SM.placeAll_maxSeat _ _, fun hu => SM.placeAll_unique _ b hu pb, fun j hj => ?_, fun seat hno => ?_,
    fun j hj i h0 hi => ?_⟩
  · obtain ⟨e, he, hej⟩ := cover j hj
    obtain ⟨h0, hi, hnone⟩ := pb.empty e he
    exact ⟨e.2, h0, hi, hej ▸ hat e he, hnone⟩
  · -- a target shows somebody of the batch
    refine SM.placeAll_other_id s.sm b seat fun e he h => ?_
    obtain ⟨j, hj, hje⟩ := List.mem_map.mp ((hn e.1).mp (List.mem_map_of_mem he))
    exact hno j hj (by rw [← h, hat e he, hje])
  · obtain ⟨e, he, hej⟩ := cover j hj
    exact hej ▸ pb.fresh e he i h0 hi

/-- where the seat manager put a newcomer is where `GetSeatID` finds him -/
theorem Placed.seatOf {s : State} {js : List Join} {sm' : SM.State} (hp : Placed s js sm') (hu : SM.IdsUnique s.sm)
    {j : Join} (hj : j ∈ js) :
    0 ≤ SM.seatOf sm' j.id ∧ SM.seatOf sm' j.id < s.sm.maxSeat ∧ SM.idAt sm' (SM.seatOf sm' j.id) = some j.id ∧
    SM.idAt s.sm (SM.seatOf sm' j.id) = none := by
  obtain ⟨seat, h0, hn, hid, hnone⟩ := hp.each j hj
  have := SM.seatOf_eq sm' (hp.unique hu) j.id seat h0 (by rw [hp.maxSeat]; exact hn) hid
  rw [this]; exact ⟨h0, hn, hid, hnone⟩

/-- `batchAddPlayers` by outcome, its recorded draw being legal: what the seat manager has become.  The tests for an empty
fixed or random half only skip calls that would change nothing, so there are three ways it can go: refused before anybody was
placed; the fixed half placed and, the random half refused, taken out again; both halves placed — one batch `b` of placements
on empty seats that names exactly the newcomers (`Placed`) — after which the appending loop dies or the arrival goes through. -/
theorem batchAdd_legal_cases (s : State) (js : List Join) (ch : List Int) (hl : BatchLegal s js ch) :
    (∃ e, batchAdd s js ch = (s, .err e)) ∨
    (∃ e, SM.Placeable s.sm (fixedMap js) ∧ batchAdd s js ch =
      ({ s with sm := (SM.remove (SM.placeAll s.sm (fixedMap js)) ((fixedMap js).map (·.1))).1 }, .err e)) ∨
    ∃ b, SM.Placeable s.sm b ∧ Placed s js (SM.placeAll s.sm b) ∧ js.Pairwise (fun a c => a.id ≠ c.id) ∧
      ((appendPlayers (SM.placeAll s.sm b) js s.players s.seatMap = none ∧
          batchAdd s js ch = ({ s with sm := SM.placeAll s.sm b }, .panic)) ∨
        ∃ ps m rg bi, appendPlayers (SM.placeAll s.sm b) js s.players s.seatMap = some (ps, m) ∧
          batchAdd s js ch =
            ({ s with sm := SM.placeAll s.sm b, players := ps, seatMap := m, autoRg := rg, autoDone := false,
                      broughtIn := bi }, .ok)) := by
  -- past the test for double ids
  have ids : ¬ (!SM.allDistinct (js.map (·.id))) = true →
      js.Pairwise (fun a c => a.id ≠ c.id) ∧ (fixedMap js).Pairwise (fun a c => a.1 ≠ c.1) := fun hd =>
    have hpw := List.pairwise_map.mp ((SM.allDistinct_iff _).1 (by simpa using hd))
    ⟨hpw, fixedMap_eq js hpw ▸ (hpw.filter _).map _ fun _ _ h => h⟩
  -- both halves accepted
  have both : ∀ r1 r2 : SM.State × SM.Res, ¬ (!SM.allDistinct (js.map (·.id))) = true →
      r1 = SM.assign s.sm (fixedMap js) → r1.2 = .ok → r2 = SM.randomAssign r1.1 (randomIds js) ch → r2.2 = .ok →
      ∃ b, r2.1 = SM.placeAll s.sm b ∧ SM.Placeable s.sm b ∧ Placed s js (SM.placeAll s.sm b) ∧
        js.Pairwise (fun a c => a.id ≠ c.id) := by
    rintro _ _ hd rfl h1 rfl h2
    obtain ⟨hpw, hf⟩ := ids hd
    obtain ⟨b', hb, pb, hn⟩ := SM.assign_randomAssign_ok s.sm _ _ ch hf hl h1 h2
    exact ⟨_, hb, pb, .of_placeable s js _ pb fun x => by rw [List.map_append, hn]; exact batch_ids js hpw x, hpw⟩
  fun_cases batchAdd s js ch
  case case1 | case2 => exact .inl ⟨_, rfl⟩
  case case3 hd _ _ r1 h1 r2 e h2 sm' =>
    have hr1 : r1 = SM.assign s.sm (fixedMap js) := SM.assign_ite _ _
    rw [hr1] at h1
    obtain ⟨f0, p1⟩ := SM.assign_ok_placed s.sm _ (ids hd).2 h1
    have : sm' = (SM.remove (SM.placeAll s.sm (fixedMap js)) ((fixedMap js).map (·.1))).1 := by
      rw [← f0, ← hr1]; exact SM.remove_ite _ _
    exact .inr (.inl ⟨_, p1, congrArg (fun x => ({ s with sm := x }, Res.err (.sm e))) this⟩)
  case case4 hd _ _ r1 h1 r2 h2 hap =>
    obtain ⟨b, hb, h⟩ := both r1 r2 hd (SM.assign_ite _ _) h1 (SM.randomAssign_ite _ _ _) h2
    rw [hb] at hap ⊢
    exact .inr (.inr ⟨b, h.1, h.2.1, h.2.2, .inl ⟨hap, rfl⟩⟩)
  case case5 hd _ _ r1 h1 r2 h2 ps m hap rg =>
    obtain ⟨b, hb, h⟩ := both r1 r2 hd (SM.assign_ite _ _) h1 (SM.randomAssign_ite _ _ _) h2
    rw [hb] at hap ⊢
    exact .inr (.inr ⟨b, h.1, h.2.1, h.2.2, .inr ⟨ps, m, _, _, hap, rfl⟩⟩)

/-- the arrival condition follows from the agreement: in a table whose seat map, player list and seat manager agree,
an accepted `batchAddPlayers` (its recorded draw being legal) is given seats the table shows free, one each -/
theorem arrivalOK_of_agree (s : State) (js : List Join) (ch : List Int) (hb : Booked s) (ha : Agree s)
    (hl : BatchLegal s js ch) : ArrivalOK s js ch := by
  intro hok
  rcases batchAdd_legal_cases s js ch hl with ⟨_, h⟩ | ⟨_, _, h⟩ | ⟨b, _, hp, hpw, ⟨_, h⟩ | ⟨_, _, _, _, _, h⟩⟩ <;> rw [h] at hok ⊢
  · cases hok
  · cases hok
  · cases hok
  · have hu := sm_unique s hb ha
    refine ⟨fun j hj => ?_, List.Pairwise.imp_of_mem (fun {a c} hma hmc hne heq => ?_) hpw⟩
    · obtain ⟨h0, hn, _, hnone⟩ := hp.seatOf hu hj
      exact free_of_sm_none s hb ha _ h0 (by rw [← ha.maxSeat]; exact hn) hnone
    · -- one seat shows one id
      have hida := (hp.seatOf hu hma).2.2.1
      rw [heq, (hp.seatOf hu hmc).2.2.1] at hida
      exact hne (Option.some.inj hida).symm

/-- `batchAddPlayers` does not panic on a table whose books agree: the seat manager found every newcomer a seat of the
table, so the appending loop stays inside the seat map -/
theorem batchAdd_no_panic (s : State) (js : List Join) (ch : List Int) (hb : Booked s) (ha : Agree s)
    (hl : BatchLegal s js ch) : (batchAdd s js ch).2 ≠ .panic := by
  intro hp
  rcases batchAdd_legal_cases s js ch hl with ⟨_, h⟩ | ⟨_, _, h⟩ | ⟨b, _, hpl, _, ⟨hap, _⟩ | ⟨_, _, _, _, _, h⟩⟩
  · rw [h] at hp; cases hp
  · rw [h] at hp; cases hp
  · refine appendPlayers_ne_none _ js _ _ (fun j hj => ?_) hap
    obtain ⟨h0, hi, _, _⟩ := hpl.seatOf (sm_unique s hb ha) hj
    exact ⟨h0, by rw [hb.2, ← ha.maxSeat]; exact hi⟩
  · rw [h] at hp; cases hp

theorem batchAdd_agree (s : State) (js : List Join) (ch : List Int) (hb : Booked s) (ha : Agree s)
    (hl : BatchLegal s js ch) : Agree (batchAdd s js ch).1 := by
  have hnp := batchAdd_no_panic s js ch hb ha hl
  have hu := sm_unique s hb ha
  have hb' := batchAdd_booked s js ch hb (arrivalOK_of_agree s js ch hb ha hl)
  rcases batchAdd_legal_cases s js ch hl with ⟨_, h⟩ | ⟨_, p1, h⟩ | ⟨b, pb, hp, hpw, ⟨_, h⟩ | ⟨ps, m, _, _, hap, h⟩⟩
  · rw [h]; exact ha
  · -- refused with the fixed seats given back: the seat manager is as it was
    rw [h, SM.release_eq s.sm hu _ p1]; exact ha
  · rw [h] at hnp; exact absurd rfl hnp
  · have hu' := hp.unique hu
    have hm : ((SM.placeAll s.sm b).maxSeat : Int) = s.cfg.maxSeat := by rw [hp.maxSeat, ha.maxSeat]
    rw [h] at hb' ⊢
    cases appendPlayers_players hap
    refine Agree.of_holds hb'.1.1 (hp.maxSeat.trans ha.maxSeat) (fun seat h0 hi x => ⟨fun hid => ?_, ?_⟩) ?_
    · -- whom the seat manager holds: a newcomer, on the seat `GetSeatID` reports, or whom it held before
      by_cases hx : ∃ j ∈ js, j.id = x
      · obtain ⟨j, hj, rfl⟩ := hx
        exact ⟨_, List.mem_append_right _ (List.mem_map_of_mem hj), SM.seatOf_eq _ hu' j.id seat h0 (hm ▸ hi) hid, rfl⟩
      · rw [hp.others seat fun j hj h => hx ⟨j, hj, Option.some.inj (h.symm.trans hid)⟩, ha.holds hb h0 hi] at hid
        obtain ⟨p, hp', h⟩ := hid
        exact ⟨p, List.mem_append_left _ hp', h⟩
    · rintro ⟨p, hp', rfl, rfl⟩
      rcases List.mem_append.mp hp' with hp' | hp'
      · -- listed before: his seat was occupied, and the placements went to empty seats
        have hid := ha.at_player hb hp'
        rwa [SM.placeAll_other_id s.sm b p.seat fun e he h => by
          have := (pb.empty e he).2.2
          rw [h, hid] at this; cases this]
      · obtain ⟨j, hj, rfl⟩ := List.mem_map.mp hp'
        exact (hp.seatOf hu hj).2.2.1
    · show ((s.players ++ _).map _).Nodup
      rw [List.map_append, List.map_map, List.nodup_append]
      refine ⟨ha.ids, hpw.map _ fun _ _ h => h, ?_⟩
      rintro _ hma _ hmb rfl
      obtain ⟨p, hp', rfl⟩ := List.mem_map.mp hma
      obtain ⟨j, hj, hjp⟩ := List.mem_map.mp hmb
      obtain ⟨h0, hi⟩ := hb.seat_range hp'
      exact hp.fresh j hj p.seat h0 (ha.maxSeat ▸ hi) (by rw [ha.at_player hb hp']; exact congrArg some hjp.symm)

/-- the books of the table and of the seat manager agree -/
def Inv (s : State) : Prop := Booked s ∧ Agree s

theorem calm_inv (s : State) (e : Event) (hc : Calm s e) (h : Inv s) : Inv (step s e) :=
  ⟨(calm_seatsEq s e hc).booked h.1, Agree.of_quiet (calm_quiet s e hc) (calm_seatsEq s e hc) h.2⟩

theorem batchAdd_inv (s : State) (js : List Join) (ch : List Int) (h : Inv s) (hl : BatchLegal s js ch) :
    Inv (batchAdd s js ch).1 :=
  ⟨batchAdd_booked s js ch h.1 (arrivalOK_of_agree s js ch h.1 h.2 hl),
    batchAdd_agree s js ch h.1 h.2 hl⟩

theorem batchRemove_inv (s : State) (ids : List Nat) (h : Inv s) (hnp : (batchRemove s ids).2 ≠ .panic) :
    Inv (batchRemove s ids).1 :=
  ⟨batchRemove_booked s ids h.1, batchRemove_agree s ids h.1 h.2 hnp⟩

theorem joinCore_inv (s : State) (id : Nat) (h : Inv s) : Inv (joinCore s id).1 := by
  obtain ⟨_, _, _, _, _, e, hp, hs⟩ := joinCore_satIn s id
  have hq : SeatsEq (joinCore s id).1 s := by rw [e]; exact ⟨rfl, hp.map _ (fun _ _ => rfl), rfl⟩
  refine ⟨hq.booked h.1, Agree.of_quiet ?_ hq h.2⟩
  rw [e]; exact ⟨hp.map _ (fun _ _ => rfl), hs.seats _ (fun _ _ => rfl), hs.maxSeat⟩

theorem create_agree (cfg : Meta) (b : Blind) : Agree (create cfg b) := by
  refine .of_holds (mapTight_default cfg.maxSeat).1 rfl (fun _ _ _ _ => ⟨fun h => ?_, fun ⟨_, hp, _⟩ => ?_⟩) .nil
  · cases h
  · cases hp

theorem create_inv (cfg : Meta) (b : Blind) : Inv (create cfg b) := ⟨create_booked cfg b, create_agree cfg b⟩

end TB
