import PokerVerif.Lemmas.HDStats
import PokerVerif.Examples.HD
/-!
# C14 — Per-hand player statistics describe what the player actually did

Statement: at settlement each participant's counters equal the numbers of wager actions, calls and checks that were
accepted from them in that hand (raises never exceed actions), the fold flag and fold round are set exactly for
players who folded, every "did X" flag (VPIP, PFR, ATS, 3-bet, fold-to-3-bet, check-raise, c-bet, fold-to-c-bet,
showdown win) implies the matching "had the chance" flag, at most one player holds the 3-bet flag, and all statistics
are cleared before the next hand.

Theorems are invariants over *every* sequence of hand-level events (submissions with any backend outcome, states
reaching the table, deadline extensions, the reset between hands), relating the statistics to the ghost log of
accepted actions.  "Did ⇒ chance" is proved under the contract `StableEvent` (monitored on every delivered state): the
event symbol `validateGameStatisticGameState` compares with — `Started`, regenerated from the source — never reaches
the table, so every chance flag except the 3-bet one stays off and with it its did-flag (D14: today the implication
holds for that reason; `PlayerFold` sets IsFtCB under IsFt3BChance, mirrored in `bump1`).  Showdown flags are set by
`settleGame` from card powers (pokerface): monitored, not modelled.
-/
namespace HD

/-- the event symbol the statistics code waits for (regenerated from game_statistics.go) -/
theorem C14_stat_event_fact : statEvent = "Started" := if_pos (beq_self_eq_true _)

/-- `PlayerFold` reads the round it records *before* it applies the fold (regenerated from table_engine.go) — the model's
`fold` stamps the round of the state the fold was validated on.  D28 (fixed): read after the action event had been
published, it raced with the hand's own updater, which moves a closed round on at once, and named the following round. -/
theorem C14_fold_round_fact : Facts.foldRoundRead = "before-the-fold|te.game.GetGameState().Status.Round" := rfl

/-- `PlayerBet` / `PlayerAllin` decide "was this a raise" on the state the action itself returned (regenerated from
table_engine.go) — the model's `bump1` is given that state.  D29 (fixed): asked of the live hand state after the action
event had been published, the answer depended on whether the hand had already moved on (an action that closes the round). -/
theorem C14_raiser_read_fact : Facts.raiserReads =
    ["PlayerBet: gs.Status.CurrentRaiser == gamePlayerIdx", "PlayerAllin: gs.Status.CurrentRaiser == gamePlayerIdx"] := rfl

/-- **C14 — counters = accepted wager actions / calls / checks, raises ≤ actions, fold flag ⇔ a fold was accepted**,
for every player, after every history that starts with empty statistics. -/
theorem C14_counters (s : State) (evs : List Ev) (h0 : Inv14 s) :
    ∀ p ∈ (runEv s evs).players,
      p.stats.actionTimes = cnt (runEv s evs).log p.id isWager ∧
      p.stats.callTimes = cnt (runEv s evs).log p.id (· == "call") ∧
      p.stats.checkTimes = cnt (runEv s evs).log p.id (· == "check") ∧
      p.stats.raiseTimes ≤ p.stats.actionTimes ∧
      (p.stats.isFold = true ↔ 0 < cnt (runEv s evs).log p.id (· == "fold")) :=
  fun p hp => (ctrOK_ctr ..).1 (inv14_run s evs h0 (p.id, p.seat, ctr p.stats) (List.mem_map.mpr ⟨p, hp, rfl⟩))

/-- **C14 — every "did X" flag implies its "had the chance" flag, and at most one player holds the 3-bet flag**
(under StableEvent). -/
theorem C14_did_implies_chance (s : State) (evs : List Ev) (hs : AllStable evs) (h0 : Inv14b s) :
    (∀ p ∈ (runEv s evs).players, didImpliesChance p.stats) ∧
    (∀ p q, p ∈ (runEv s evs).players → q ∈ (runEv s evs).players → p.stats.b3 = true → q.stats.b3 = true → p.id = q.id) := by
  have h := inv14b_run s evs hs h0
  exact ⟨fun p hp => flagsOff_did p.stats (h.off p hp) (h.b3.1 p hp), h.b3.2⟩

/-- **C14 — all statistics are cleared before the next hand.** -/
theorem C14_cleared (s : State) : ∀ p ∈ (reset s).players, p.stats = {} := reset_cleared s

/-- a table whose players have distinct ids and empty statistics satisfies both invariants (the start of every hand) -/
theorem C14_initial (s : State) (hnd : (s.players.map (·.id)).Nodup) (hempty : ∀ p ∈ s.players, p.stats = {}) (hlog : s.log = []) :
    Inv14 s ∧ Inv14b s :=
  ⟨inv14_of_empty s hempty hlog, inv14b_of_empty s hnd hempty⟩

-- non-vacuity: the example hand of C10 — a call, a refused out-of-turn fold, a failed and retried raise
example : let evs : List Ev := [.deliver exView true 1000, .act 12 "call" 0 (.ok 2), .act 13 "fold" 0 .none,
      .act 12 "raise" 100 .err]
    AllStable evs ∧ (statsOf (runEv exState evs).players 12).actionTimes = 1 ∧ (statsOf (runEv exState evs).players 12).callTimes = 1 ∧
    (runEv exState evs).log = [(12, "call", "preflop")] :=
  ⟨⟨by rw [Stable, C14_stat_event_fact]; decide +kernel, trivial⟩, by decide +kernel⟩

end HD
