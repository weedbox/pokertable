import PokerVerif.Lemmas.TBInv
import PokerVerif.Props.C01
/-!
# C02 — A hand's seat numbers denote the same players from open to settlement

Statement: from the moment a hand opens until it is settled, entry i of the hand's player list denotes one fixed
table player: the list contains every dealt-in player exactly once, in clockwise seat order, the stack the hand
engine starts with for entry i is that player's bankroll at open, every action accepted for entry i was submitted by
that player, and entry i's result is credited to that player and nobody else.

Proved here: start stacks, result credit, stability of the list under everything that can happen to *other*
players while the hand runs (reservations, batch joins, re-buys, add-ons, joins), and — `C02_hand_list` — that the list
built by `calcGamePlayerIndexes` names exactly the dealt-in players, each once, clockwise from the start seat, for every
table whose seat map and player list describe the same seating (`MapWF`; that this holds in every reachable state is the
seat-bookkeeping invariant of C03, monitored on every observed state as `c03Inv` and proved for every history whose recorded
seat draws are legal: `C02_hand_list_for_every_history`).
The same facts are checked on the `opened` snapshot of every hand of every run (`handListExact`, `clockwise`), and the
identity of the entries on every later snapshot of the hand.  A *dealt-in* player leaving mid-hand breaks the list
(known finding D7).
-/
namespace TB

/-- **C02 — the stack the hand engine starts with for entry i is that player's bankroll at open** (and its labels
are that player's labels, plus `dealer` on the first entry when the button is dead). -/
theorem C02_start_stack (s2 : State) :
    (handOptions s2).map (·.1) =
      s2.gidx.filterMap (fun i => if 0 ≤ i then (s2.players[i.toNat]?).map (·.bankroll) else none) := by
  unfold handOptions
  dsimp only
  generalize hb : s2.gidx.filterMap (fun i =>
    if 0 ≤ i then (s2.players[i.toNat]?).map (fun p => (p.bankroll, p.positions)) else none) = base
  have : base.map (·.1) = s2.gidx.filterMap (fun i => if 0 ≤ i then (s2.players[i.toNat]?).map (·.bankroll) else none) := by
    rw [← hb, List.map_filterMap]
    congr 1
    funext i
    split
    · cases s2.players[i.toNat]? <;> rfl
    · rfl
  rw [← this]
  rcases base with _ | ⟨⟨_, _⟩, _⟩ <;> rfl

/-- the open itself does not move a chip: the bankrolls the options are built from are those before the open (nor does an
attempt that fails: `gateFire_attempted`) -/
theorem C02_open_keeps_bankrolls (s : State) (ch : Option Int) (ok : Bool) (h : (gateFire s ch ok).2 = .opened) :
    (gateFire s ch ok).1.players.map (fun p => (p.id, p.bankroll)) = s.players.map (fun p => (p.id, p.bankroll)) := by
  obtain ⟨_, _, _, _, _, _, _, _, _, _, _, heq, hp, _⟩ := gateFire_attempted s ch ok
  rw [heq]; exact hp.map _ (fun _ _ => rfl)

/-- **C02 — entry i's result is credited to the player the list names at i and to nobody else.** -/
theorem C02_result_credit (s : State) (res : List (Nat × Int)) (hok : (settle s res).2 = .ok) (k : Nat)
    (hk : k < s.players.length) :
    bankAt (settle s res).1.players k = bankAt s.players k + credit s.gidx res k :=
  (C01_settle_local s res hok).2 k hk

/-- `calcLeavePlayers` re-maps the hand's player indexes through the player ids on *every* departure (regenerated from
table_engine_internal.go) — as `TB.batchRemove` does.  D30 (fixed): it did so only while the table status was a hand
status; a hand stopped by `PauseTable` / `CloseTable` kept stale entries after a departure (the next departure indexed
the player list out of range, a settlement would have credited the neighbours). -/
theorem C02_remap_fact : Facts.leaveRemapGuard = "always: range te.table.State.GamePlayerIndexes" := rfl

/-- **C02 — a departure keeps the hand's list denoting the same players**: in every state reachable from `CreateTable`
(recorded seat draws legal), after a successful `PlayersLeave` the hand's list — read against the new, compacted player
list — names exactly the players it named before, minus those who left, in the same order; whatever the table status
(also after a pause or a close in the middle of the hand: D30).  Reachability is not what makes it true:
`batchRemove_entries` says the same of every table. -/
theorem C02_leave_keeps_entries (cfg : Meta) (b : Blind) (evs : List Event) (hl : DrawsLegal (create cfg b) evs)
    (ids : List Nat) (hok : (batchRemove (run (create cfg b) evs) ids).2 = .ok) :
    let t := run (create cfg b) evs
    (batchRemove t ids).1.gidx.filterMap (entryId (batchRemove t ids).1.players) =
      (t.gidx.filterMap (entryId t.players)).filter (fun id => !(ids.contains id)) :=
  batchRemove_entries _ ids hok

-- non-vacuity: a three-player hand, the table is paused, the player listed first (not in the hand's first entry) leaves
example :
    let t := run (create exCfg exBlind)
      [.reserve { id := 1, chips := 500, seat := 0 } [], .reserve { id := 2, chips := 300, seat := 2 } [],
       .reserve { id := 3, chips := 200, seat := 3 } [], .join 2, .join 3, .start, .setup 0 [(2, 0), (3, 1)],
       .fire (some 3) true, .pause]
    t.gidx.filterMap (entryId t.players) = [2, 3] ∧ (batchRemove t [1]).2 = .ok ∧
    (batchRemove t [1]).1.gidx.filterMap (entryId (batchRemove t [1]).1.players) = [2, 3] ∧
    t.gidx ≠ (batchRemove t [1]).1.gidx := by decide +kernel

/-- who is admitted to the hand's list is decided by the `IsParticipated` flag `openGame` has just refreshed — the same
snapshot of "dealt in" the rest of the open works with — in all three loops of `calcGamePlayerIndexes` (regenerated from
table_engine_internal.go); `TB.gameIndexes` filters by `partOf`, the same flag -/
theorem C02_list_membership_fact : Facts.handListTests =
    ["players[playerIdx].IsParticipated", "playerIdx >= 0 && players[playerIdx].IsParticipated",
     "playerIdx >= 0 && players[playerIdx].IsParticipated"] := rfl

/-- **C02 — stable under everything that happens to other players while the hand runs**: a reservation, a batch
join, a re-buy, an add-on and a join leave the hand's list alone and keep every existing player at his index. -/
theorem C02_stable (s : State) :
    (∀ js ch, (batchAdd s js ch).1.gidx = s.gidx ∧ ∃ extra, (batchAdd s js ch).1.players = s.players ++ extra) ∧
    (∀ id c, (redeem s id c).1.gidx = s.gidx ∧ (redeem s id c).1.players.map (·.id) = s.players.map (·.id)) ∧
    (∀ b, (setBlind s b).gidx = s.gidx ∧ (setBlind s b).players = s.players) := by
  refine ⟨fun js ch => ?_, fun id c => ?_, fun _ => ⟨rfl, rfl⟩⟩
  · obtain ⟨extra, hp, hg, _⟩ := batchAdd_appends s js ch
    exact ⟨hg, extra, hp⟩
  · obtain ⟨_, _, _, h, hp, _⟩ := redeem_paid s id c
    rw [h]; exact ⟨rfl, hp.map (·.id) (fun _ _ => rfl)⟩

/-- **C02 — the hand's list contains every dealt-in player exactly once, in clockwise seat order** (default rule; for
every seat layout, button position incl. dead button / dead small blind, any sitting-out or busted players in between):
whenever `openGame` succeeds on a table whose seat map and player list describe the same seating (`MapWF`, the
seat-bookkeeping invariant of C03) and a start seat exists (`handStart ≠ -1`: the dealer is dealt in, or some dealt-in
seat precedes the blinds), the list `GamePlayerIndexes` of the opened table
* names exactly the dealt-in players (`pi ∈ gidx ↔ players[pi]` is dealt in),
* names nobody twice,
* and is the clockwise walk over all seats from the start seat, keeping the dealt-in ones.

(`gameIndexes_exact` does without `hn`: a consistent table without seats has no players.) -/
theorem C02_hand_list (s : State) (sm : SM.State) (hop : (openTable s sm).2 = .opened)
    (hrule : s.cfg.rule ≠ .shortDeck) (wf : MapWF s.seatMap s.players) (hn : 0 < s.seatMap.length)
    (hstart : handStart { s with sm := sm } (openTable s sm).1.players ≠ -1) :
    (∀ pi, pi ∈ (openTable s sm).1.gidx ↔
      (0 ≤ pi ∧ ∃ p, (openTable s sm).1.players[pi.toNat]? = some p ∧ p.participated = true)) ∧
    (openTable s sm).1.gidx.Nodup ∧
    (openTable s sm).1.gidx =
      (walkSeats s.seatMap.length (handStart { s with sm := sm } (openTable s sm).1.players)).filterMap
        (pickAt s.seatMap (partOf (openTable s sm).1.players)) := by
  obtain ⟨ps, gi, ps2, hm, hgi, hap, heq⟩ := openTable_opened_eq s sm hop
  rw [heq] at hstart ⊢
  -- the labelled list `ps2` seats the players as the table's list does and deals in whom `ps` deals in
  have seats : ps2.map (·.seat) = s.players.map (·.seat) :=
    (assignPositions_map (·.seat) (fun _ _ => rfl) sm ps ps2 hap).trans (dealIn_map (·.seat) (fun _ _ => rfl) sm _ _ hm)
  rw [← gameIndexes_congr _ ps ps2 (assignPositions_map (fun p => (p.participated, p.seat)) (fun _ _ => rfl) sm ps ps2 hap)]
    at hgi
  exact gameIndexes_exact { s with sm := sm } ps2 gi hrule (wf.of_seats _ _ _ seats) hstart hgi

/-- **C02 (partial) — … in every reachable state**: the same for the table reached by any history whose arrivals were given
seats the table showed free (`ArrivalsOK`, see `C03_bookkeeping_partial`): no separate consistency hypothesis is needed -/
theorem C02_hand_list_reachable_partial (cfg : Meta) (b : Blind) (evs : List Event) (ha : ArrivalsOK (create cfg b) evs)
    (sm : SM.State) (hop : (openTable (run (create cfg b) evs) sm).2 = .opened)
    (hrule : (run (create cfg b) evs).cfg.rule ≠ .shortDeck) (hn : 0 < (run (create cfg b) evs).seatMap.length)
    (hstart : handStart { run (create cfg b) evs with sm := sm } (openTable (run (create cfg b) evs) sm).1.players ≠ -1) :
    (∀ pi, pi ∈ (openTable (run (create cfg b) evs) sm).1.gidx ↔
      (0 ≤ pi ∧ ∃ p, (openTable (run (create cfg b) evs) sm).1.players[pi.toNat]? = some p ∧ p.participated = true)) ∧
    (openTable (run (create cfg b) evs) sm).1.gidx.Nodup :=
  let w := C02_hand_list (run (create cfg b) evs) sm hop hrule
    (run_booked _ evs (create_booked cfg b) ha).1.1 hn hstart
  ⟨w.1, w.2.1⟩

/-- **C02 — … for every history**: in the table reached from `CreateTable` by *any* history of the 19 event kinds (only
hypothesis: the recorded random seat draws are draws the seat manager could have made — `DrawsLegal`; the seat-bookkeeping
invariant is `C03_for_every_history`), a successful open yields a hand list that names exactly the dealt-in players, nobody
twice, and is the clockwise walk from the start seat keeping the dealt-in ones. -/
theorem C02_hand_list_for_every_history (cfg : Meta) (b : Blind) (evs : List Event) (hl : DrawsLegal (create cfg b) evs)
    (sm : SM.State) (hop : (openTable (run (create cfg b) evs) sm).2 = .opened)
    (hrule : (run (create cfg b) evs).cfg.rule ≠ .shortDeck) (hn : 0 < (run (create cfg b) evs).seatMap.length)
    (hstart : handStart { run (create cfg b) evs with sm := sm } (openTable (run (create cfg b) evs) sm).1.players ≠ -1) :
    (∀ pi, pi ∈ (openTable (run (create cfg b) evs) sm).1.gidx ↔
      (0 ≤ pi ∧ ∃ p, (openTable (run (create cfg b) evs) sm).1.players[pi.toNat]? = some p ∧ p.participated = true)) ∧
    (openTable (run (create cfg b) evs) sm).1.gidx.Nodup ∧
    (openTable (run (create cfg b) evs) sm).1.gidx =
      (walkSeats (run (create cfg b) evs).seatMap.length
        (handStart { run (create cfg b) evs with sm := sm } (openTable (run (create cfg b) evs) sm).1.players)).filterMap
        (pickAt (run (create cfg b) evs).seatMap (partOf (openTable (run (create cfg b) evs) sm).1.players)) :=
  C02_hand_list (run (create cfg b) evs) sm hop hrule
    (run_inv4 _ evs (create_inv4 cfg b) hl).booked.1.1 hn hstart

-- non-vacuity of `C02_hand_list`: the state of the example history just before its first hand opens is consistent, the
-- open succeeds, a start seat exists — and the list is the three dealt-in players clockwise from the dealer
example : let t := run (create exCfg exBlind) (exHistory.take 8)
    mapWFb t.seatMap t.players = true ∧ 0 < t.seatMap.length ∧ t.cfg.rule ≠ .shortDeck ∧
    (openTable t (SM.init t.sm (some 0)).1).2 = .opened ∧
    handStart { t with sm := (SM.init t.sm (some 0)).1 } (openTable t (SM.init t.sm (some 0)).1).1.players ≠ -1 ∧
    (openTable t (SM.init t.sm (some 0)).1).1.gidx = [1, 2, 0] := by decide +kernel

-- non-vacuity: the example history of C01 — three dealt in, an add-on to entry 1's player during the hand
example : let t := run (create exCfg exBlind) (exHistory.take 9)
    t.gidx = [1, 2, 0] ∧ handOptions t = [(300, ["dealer"]), (200, ["sb"]), (500, ["bb"])] ∧
    (redeem t 2 100).1.gidx = [1, 2, 0] := by decide +kernel

end TB
