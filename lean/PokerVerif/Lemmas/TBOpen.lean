import PokerVerif.Lemmas.TBBasic
/-!
# What `openGame` does to the player list

`updatePlayerPositions` walks the seats with a queue of labels and writes into the player list as it goes; but the walk never
looks at the list.  Defined here: the walk alone (`planStep`, `walkFromBB`, `labelPlan`: who is handed which label, a `Plan`)
and writing a plan down (`applyPlan`); `assignPositions_eq_plan`: the real function is the one after the other.  So it changes
labels only (`assignPositions_map`); the dealt-in flags are what the seat manager says (`dealIn_eq`, `dealIn_map`); together:
the players after an open that went through (`openCore_dealt_in`).  Who gets which label is the subject of `TBLabels`.
-/
namespace TB

theorem modify_map {β : Type} (ps : List Player) (i : Nat) (f : Player → Player) (g : Player → β)
    (hg : ∀ p, g (f p) = g p) : (ps.modify i f).map g = ps.map g := by
  induction ps generalizing i with
  | nil => simp
  | cons p t ih =>
    cases i with
    | zero => simp [hg]
    | succ k => simp only [List.modify_succ_cons, List.map_cons]; rw [ih k]

theorem setPositions_map {β : Type} (g : Player → β) (hg : ∀ p pos, g { p with positions := pos } = g p)
    (ps : List Player) (id : Nat) (pos : List String) : (setPositions ps id pos).map g = ps.map g := by
  unfold setPositions
  split
  · exact modify_map _ _ _ g (fun p => hg p pos)
  · rfl

abbrev Plan := List (Nat × List String)

def planStep (sm : SM.State) (acc : Option (Plan × List (List String) × Bool)) (seat : Int) :
    Option (Plan × List (List String) × Bool) :=
  match acc with
  | none => none
  | some (pl, q, stop) =>
    if stop then some (pl, q, stop)
    else if !(SM.inRange sm seat) then some (pl, q, q.isEmpty)
    else
      match q with
      | [] => none
      | h :: rest =>
        match sm.seats seat with
        | some sp =>
          if sp.active then some (pl ++ [(sp.id, h)], rest, rest.isEmpty)
          else
            let tp := h.contains "dealer" || h.contains "sb"
            let ts := seat == sm.dealer || seat == sm.sb
            if tp && ts then some (pl, rest, rest.isEmpty) else some (pl, q, false)
        | none =>
          let tp := h.contains "dealer" || h.contains "sb"
          let ts := seat == sm.dealer || seat == sm.sb
          if tp && ts then some (pl, rest, rest.isEmpty) else some (pl, q, false)

/-- the seats in the order the walk visits them: clockwise from the big-blind seat, once round the table -/
def walkFromBB (sm : SM.State) : List Int :=
  (List.range sm.maxSeat).map (fun (k : Nat) => Int.tmod (sm.bb + (k : Int)) sm.maxSeat)

/-- who is handed which label, in the order of the walk (`none`: the Go code indexes an empty queue) -/
def labelPlan (sm : SM.State) : Option Plan :=
  match (walkFromBB sm).foldl (planStep sm) (some ([], labelQueue (slotCount sm), false)) with
  | none => none
  | some (pl, _, _) => some pl

def applyPlan (ps : List Player) (pl : Plan) : List Player :=
  pl.foldl (fun acc e => setPositions acc e.1 e.2) ps

theorem applyPlan_append (ps : List Player) (pl : Plan) (e : Nat × List String) :
    applyPlan ps (pl ++ [e]) = setPositions (applyPlan ps pl) e.1 e.2 := by
  unfold applyPlan
  rw [List.foldl_append]
  rfl

/-- `updatePlayerPositions` = compute the plan from the seat manager, then write it into the player list: a step of the
real walk is the plan step seen through "write the plan so far into `ps`" (`List.foldl_hom`) -/
theorem assignPositions_eq_plan (sm : SM.State) (ps : List Player) :
    assignPositions sm ps = (labelPlan sm).map (applyPlan ps) := by
  unfold assignPositions labelPlan walkFromBB
  simp only
  rw [show (some (ps, labelQueue (slotCount sm), false) : Option (List Player × List (List String) × Bool)) =
        (some (([] : Plan), labelQueue (slotCount sm), false)).map (fun st => (applyPlan ps st.1, st.2)) from rfl,
      List.foldl_hom (Option.map fun st => (applyPlan ps st.1, st.2)) (g₁ := planStep sm)]
  · cases List.foldl (planStep sm) _ _ <;> rfl
  · intro x seat
    rcases x with _ | ⟨pl, q, stop⟩
    · rfl
    · unfold planStep
      simp only [Option.map]
      cases stop <;> cases SM.inRange sm seat <;> try rfl
      cases q with
      | nil => rfl
      | cons hd rest =>
        simp only [Bool.false_eq_true, if_false, Bool.not_true]
        -- whether a dead button / small blind uses up its label is the same test on both sides
        generalize ((hd.contains "dealer" || hd.contains "sb") && (seat == sm.dealer || seat == sm.sb)) = dead
        cases sm.seats seat with
        | none => cases dead <;> rfl
        | some sp =>
          simp only
          cases sp.active
          · cases dead <;> rfl
          · simp only [if_true, applyPlan_append]

theorem applyPlan_map {β : Type} (g : Player → β) (hg : ∀ p pos, g { p with positions := pos } = g p)
    (ps : List Player) (pl : Plan) : (applyPlan ps pl).map g = ps.map g := by
  induction pl generalizing ps with
  | nil => rfl
  | cons e t ih => exact (ih _).trans (setPositions_map g hg ps e.1 e.2)

theorem assignPositions_map {β : Type} (g : Player → β) (hg : ∀ p pos, g { p with positions := pos } = g p)
    (sm : SM.State) (ps ps' : List Player) (h : assignPositions sm ps = some ps') : ps'.map g = ps.map g := by
  rw [assignPositions_eq_plan] at h
  obtain ⟨pl, _, rfl⟩ := Option.map_eq_some_iff.mp h
  exact applyPlan_map g hg ps pl

theorem dealIn_eq (sm : SM.State) (ps ps' : List Player)
    (h : dealIn sm ps = some ps') :
    ps' = ps.map (fun p => { p with participated := (SM.isActive sm p.id).getD false }) := by
  induction ps generalizing ps' with
  | nil => cases h; rfl
  | cons p t ih =>
    simp only [List.mapM_cons, bind, Option.bind_eq_some_iff, Option.map_eq_some_iff, pure] at h
    obtain ⟨_, ⟨a, ha, rfl⟩, t', ht, h⟩ := h
    rw [List.map_cons, ha, ← ih t' ht, ← Option.some.inj h]; rfl

theorem dealIn_map {β : Type} (g : Player → β) (hg : ∀ p a, g { p with participated := a } = g p)
    (sm : SM.State) (ps ps' : List Player)
    (h : dealIn sm ps = some ps') :
    ps'.map g = ps.map g := by
  rw [dealIn_eq sm ps ps' h, List.map_map]
  exact List.map_congr_left fun p _ => hg p _

theorem openCore_dealt_in (s : State) (ch : Option Int) (ok : Bool) (h : (openCore s ch ok).2 = .opened) :
    let r := if !s.sm.isInit then SM.init s.sm ch else SM.rotate s.sm
    r.2 = .ok ∧ (openCore s ch ok).1.sm = r.1 ∧
    (openCore s ch ok).1.players.map (fun p => (p.id, p.participated)) =
      s.players.map (fun p => (p.id, (SM.isActive r.1 p.id).getD false)) ∧
    (openCore s ch ok).1.players.map (fun p => (p.id, p.seat, p.bankroll, p.isIn)) =
      s.players.map (fun p => (p.id, p.seat, p.bankroll, p.isIn)) := by
  obtain ⟨ps, gi, ps2, hok, hm, _, hap, h'⟩ := openCore_opened_eq s ch ok h
  rw [h']
  exact ⟨hok, rfl,
    (assignPositions_map (fun p => (p.id, p.participated)) (fun _ _ => rfl) _ _ _ hap).trans
      (dealIn_eq _ _ _ hm ▸ List.map_map),
    (assignPositions_map (fun p => (p.id, p.seat, p.bankroll, p.isIn)) (fun _ _ => rfl) _ _ _ hap).trans
      (dealIn_map (fun p => (p.id, p.seat, p.bankroll, p.isIn)) (fun _ _ => rfl) _ _ _ hm)⟩

end TB
