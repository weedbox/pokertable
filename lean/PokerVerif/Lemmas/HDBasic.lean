import PokerVerif.HD
/-! Helper lemmas about the hand-level model: every outcome of a submission; the request events as symbols. -/
namespace HD

theorem View.player_natCast (v : View) (gi : Nat) : v.player gi = v.players[gi]? :=
  if_pos (Int.natCast_nonneg gi)

/-- the three request events are different symbols: what the cascades over `v.event` (`asked`, `groupCall`, `AC.posted`)
need to get past their first tests -/
theorem requestEvents_ne : ¬("AnteRequested" == "ReadyRequested") = true ∧
    ¬("BlindsRequested" == "ReadyRequested") = true ∧ ¬("BlindsRequested" == "AnteRequested") = true := by
  simp only [beq_iff_eq, String.reduceEq, not_false_eq_true, and_self]

/-- every outcome of a submission: refused without a trace, or accepted after passing every guard -/
theorem act_cases (s : State) (id : Nat) (kind : String) (arg : Int) (o : Oracle) :
    (∃ e, act s id kind arg o = (s, .err e)) ∨
    ∃ gi v isR emit, act s id kind arg o = (accept s v id gi kind arg isR emit, .ok) ∧
      s.playing = true ∧ findIdx s.hand id = some gi ∧ gi < s.players.length ∧ s.view = some v ∧
      (v.player gi).isSome = true ∧
      (kind = "ready" ∨ kind = "pay" → v.hasAction gi kind = true ∧ isR = false ∧ emit = false) ∧
      (¬(kind = "ready" ∨ kind = "pay") → v.cur = (gi : Int) ∧ (kind = "pass" → v.hasAction gi "pass" = true) ∧
        emit = true ∧ ∃ nr, o = .ok nr ∧ isR = (nr == (gi : Int))) := by
  -- `act.fun_cases`: one case per leaf of the guard cascade, with the guards passed on the way as hypotheses
  fun_cases act s id kind arg o
  case case7 hp gi hgi hlen v hv hk hpl hha _ | case8 hp gi hgi hlen v hv hk hpl hha _ _
      | case9 hp gi hgi hlen v hv hk hpl hha _ _ _ =>
    simp only [Bool.not_eq_true, Bool.not_eq_false', Bool.or_eq_true, beq_iff_eq, Option.isNone_eq_false_iff]
      at hp hk hpl hha
    exact .inr ⟨gi, v, _, _, rfl, hp, hgi, Nat.lt_of_not_le hlen, hv, hpl, fun _ => ⟨hha, rfl, rfl⟩, fun h => absurd hk h⟩
  case case14 hp gi hgi hlen v hv hk hpl hcur hps nr =>
    simp only [Bool.not_eq_true, Bool.not_eq_false', Bool.or_eq_true, beq_iff_eq, Option.isNone_eq_false_iff,
      bne_eq_false_iff_eq, Bool.and_eq_false_imp] at hp hk hpl hcur hps
    exact .inr ⟨gi, v, _, _, rfl, hp, hgi, Nat.lt_of_not_le hlen, hv, hpl, fun h => absurd h hk,
      fun _ => ⟨hcur, hps, rfl, nr, rfl, rfl⟩⟩
  all_goals exact .inl ⟨_, rfl⟩

theorem act_refused {s : State} {id : Nat} {kind : String} {arg : Int} {o : Oracle}
    (h : (act s id kind arg o).2 ≠ .ok) : (act s id kind arg o).1 = s := by
  obtain ⟨e, he⟩ | ⟨_, _, _, _, he, _⟩ := act_cases s id kind arg o
  · rw [he]
  · rw [he] at h; exact absurd rfl h

end HD
