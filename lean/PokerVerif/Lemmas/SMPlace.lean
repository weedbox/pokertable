import PokerVerif.Lemmas.SMIds
/-!
# What arrivals do to the occupants

A seat is left as it was or holds the newcomer of an entry that targets it (`placeAll_cases`: the one statement about
`placeAll` the others are read off).  A batch that goes to empty seats of the table with fresh, pairwise different ids
(`Placeable`) keeps the ids unique; an accepted `AssignSeats` / `RandomAssignSeats` (with a legal draw) is the placement of
such a batch, and one after the other is the placement of the joint batch.
-/
namespace SM

theorem place_maxSeat (st : State) (id : Nat) (seat : Int) : (place st id seat).maxSeat = st.maxSeat := rfl

theorem placeAll_maxSeat (st : State) (b : List (Nat × Int)) : (placeAll st b).maxSeat = st.maxSeat := by
  rw [placeAll_frame]

/-- a seat after placements: as it was if no entry targets it, else it holds the newcomer of an entry that targets it
(the last one), with some waiting flag -/
theorem placeAll_cases (st : State) (b : List (Nat × Int)) (i : Int) :
    ((∀ e ∈ b, e.2 ≠ i) ∧ (placeAll st b).seats i = st.seats i) ∨
    ∃ e ∈ b, e.2 = i ∧ ∃ w, (placeAll st b).seats i = some { newSeatPlayer e.1 with between := w } := by
  induction b generalizing st with
  | nil => exact .inl ⟨nofun, rfl⟩
  | cons a t ih =>
    rcases ih (place st a.1 a.2) with ⟨hno, h⟩ | ⟨e, he, h⟩
    · by_cases hi : a.2 = i
      · obtain ⟨w, hw⟩ := place_self st a.1 a.2
        exact .inr ⟨a, List.mem_cons_self, hi, w, h.trans (hi ▸ hw)⟩
      · exact .inl ⟨List.forall_mem_cons.2 ⟨hi, hno⟩, h.trans (place_other st a.1 a.2 i (Ne.symm hi))⟩
    · exact .inr ⟨e, List.mem_cons_of_mem _ he, h⟩

theorem placeAll_other (st : State) (b : List (Nat × Int)) (i : Int) (h : ∀ e ∈ b, e.2 ≠ i) :
    (placeAll st b).seats i = st.seats i := by
  rcases placeAll_cases st b i with ⟨_, h'⟩ | ⟨e, he, hi, _⟩
  · exact h'
  · exact absurd hi (h e he)

theorem placeAll_other_id (st : State) (b : List (Nat × Int)) (i : Int) (h : ∀ e ∈ b, e.2 ≠ i) :
    idAt (placeAll st b) i = idAt st i := by
  unfold idAt; rw [placeAll_other st b i h]

theorem placeAll_seat (st : State) (b : List (Nat × Int)) (i : Int) :
    (placeAll st b).seats i = st.seats i ∨ ∃ sp, (placeAll st b).seats i = some sp ∧ sp.isIn = false := by
  rcases placeAll_cases st b i with ⟨_, h⟩ | ⟨_, _, _, _, h⟩
  · exact .inl h
  · exact .inr ⟨_, h, rfl⟩

theorem placeAll_at (st : State) (b : List (Nat × Int)) (hs : b.Pairwise (fun a c => a.2 ≠ c.2)) :
    ∀ e ∈ b, idAt (placeAll st b) e.2 = some e.1 := by
  intro e he
  rcases placeAll_cases st b e.2 with ⟨hno, _⟩ | ⟨a, ha, hae, w, h⟩
  · exact absurd rfl (hno e he)
  · -- the entry that targets `e`'s seat is `e`
    rw [idAt, h, pairwise_inj (·.2) b hs a ha e he hae]; rfl

/-- a seat shows `x` afterwards only if `(x, seat)` is in the batch, or it is no target and showed `x` before -/
theorem placeAll_shows (st : State) (b : List (Nat × Int)) (i : Int) (x : Nat) (h : idAt (placeAll st b) i = some x) :
    (x, i) ∈ b ∨ ((∀ e ∈ b, e.2 ≠ i) ∧ idAt st i = some x) := by
  rcases placeAll_cases st b i with ⟨hno, hs⟩ | ⟨e, he, rfl, w, hs⟩ <;> rw [idAt, hs] at h
  · exact .inr ⟨hno, h⟩
  · obtain rfl := Option.some.inj h
    exact .inl he

/-- a batch that can be placed: every target is an empty seat of the table, nobody of the batch is at the table, no two
entries share a seat or an id.  What an accepted `AssignSeats` / `RandomAssignSeats` (with a legal draw) has checked. -/
structure Placeable (st : State) (b : List (Nat × Int)) : Prop where
  empty : ∀ e ∈ b, 0 ≤ e.2 ∧ e.2 < st.maxSeat ∧ idAt st e.2 = none
  fresh : ∀ e ∈ b, ∀ i : Int, 0 ≤ i → i < st.maxSeat → idAt st i ≠ some e.1
  seats : b.Pairwise (fun a c => a.2 ≠ c.2)
  ids : b.Pairwise (fun a c => a.1 ≠ c.1)

theorem placeAll_unique (st : State) (b : List (Nat × Int)) (hu : IdsUnique st) (hp : Placeable st b) :
    IdsUnique (placeAll st b) := by
  intro i j x hi0 hin hj0 hjn hxi hxj
  rw [placeAll_maxSeat] at hin hjn
  rcases placeAll_shows st b i x hxi with hi | ⟨_, hi⟩ <;> rcases placeAll_shows st b j x hxj with hj | ⟨_, hj⟩
  · exact congrArg Prod.snd (pairwise_inj (·.1) b hp.ids _ hi _ hj rfl)
  · exact absurd hj (hp.fresh _ hi j hj0 hjn)
  · exact absurd hi (hp.fresh _ hj i hi0 hin)
  · exact hu i j x hi0 hin hj0 hjn hi hj

theorem placeAll_append (st : State) (b1 b2 : List (Nat × Int)) : placeAll st (b1 ++ b2) = placeAll (placeAll st b1) b2 := by
  induction b1 generalizing st with
  | nil => rfl
  | cons e t ih => exact ih (place st e.1 e.2)

theorem Placeable.append {st : State} {b1 b2 : List (Nat × Int)} (p1 : Placeable st b1) (p2 : Placeable (placeAll st b1) b2) :
    Placeable st (b1 ++ b2) := by
  have at1 := placeAll_at st b1 p1.seats
  obtain ⟨e2, f2, s2, i2⟩ := id p2
  rw [placeAll_maxSeat] at e2 f2
  -- a seat that is occupied before the first round is no target of it, so it shows the same id after it
  have keep : ∀ i x, idAt st i = some x → idAt (placeAll st b1) i = some x := fun i x hi => by
    rw [placeAll_other_id st b1 i (fun e he h => by have := (p1.empty e he).2.2; rw [h, hi] at this; cases this)]; exact hi
  refine ⟨List.forall_mem_append.2 ⟨p1.empty, fun e he => ⟨(e2 e he).1, (e2 e he).2.1, ?_⟩⟩,
    List.forall_mem_append.2 ⟨p1.fresh, fun e he i h0 hn hi => f2 e he i h0 hn (keep _ _ hi)⟩,
    List.pairwise_append.mpr ⟨p1.seats, s2, fun a ha c hc h => ?_⟩,
    List.pairwise_append.mpr ⟨p1.ids, i2, fun a ha c hc h =>
      f2 c hc a.2 (p1.empty a ha).1 (p1.empty a ha).2.1 (by rw [at1 a ha, h])⟩⟩
  · -- empty after the first round, so empty before it
    cases hi : idAt st e.2 with
    | none => rfl
    | some x => have := (e2 e he).2.2; rw [keep _ _ hi] at this; cases this
  · have := (e2 c hc).2.2
    rw [← h, at1 a ha] at this; cases this

/-- a target that passed the validation loop of `AssignSeats`, for a fresh id, is empty: held by somebody else it is
refused (seat taken), and the newcomer himself is not there -/
theorem empty_of_not_occupiedByOther (st : State) (id : Nat) (seat : Int) (hr : inRange st seat = true)
    (ho : occupiedByOther st id seat = false) (hf : hasPlayer st id = false) : st.seats seat = none := by
  rw [occupiedByOther_inRange st id seat hr] at ho
  cases hs : st.seats seat with
  | none => rfl
  | some p =>
    rw [hs] at ho
    have hr' := (inRange_iff st seat).mp hr
    exact absurd (by rw [idAt, hs]; simpa using ho) (fresh_nowhere st id hf seat hr'.1 hr'.2)

theorem assign_ok_placed (st : State) (b : List (Nat × Int)) (hids : b.Pairwise (fun a c => a.1 ≠ c.1))
    (h : (assign st b).2 = .ok) :
    (assign st b).1 = placeAll st b ∧ Placeable st b := by
  rcases assign_cases st b with ⟨e, he⟩ | ⟨heq, herr, hfresh⟩
  · rw [he] at h; cases h
  obtain ⟨ht, hdup⟩ := assignLoopErrs_nil st b herr
  refine ⟨by rw [heq], fun e he => ?_, fun e he => fresh_nowhere st e.1 (hfresh e he),
    hids.imp_of_mem (fun ha hc hne => hdup _ ha _ hc hne), hids⟩
  have hr := (inRange_iff st e.2).mp (ht e he).1
  exact ⟨hr.1, hr.2, by rw [idAt, empty_of_not_occupiedByOther st e.1 e.2 (ht e he).1 (ht e he).2 (hfresh e he)]; rfl⟩

/-- no seat is given twice: a successful `AssignSeats` leaves every occupied seat with its occupant -/
theorem assign_keeps_occupants (st : State) (b : List (Nat × Int)) (h : (assign st b).2 = .ok)
    (i : Int) (p : SeatPlayer) (hi : inRange st i = true) (hp : st.seats i = some p) :
    (assign st b).1.seats i = some p := by
  rcases assign_cases st b with ⟨e, he⟩ | ⟨heq, herr, hfresh⟩
  · rw [he] at h; cases h
  rw [heq, placeAll_other st b i ?_, hp]
  intro e he hei
  have := empty_of_not_occupiedByOther st e.1 e.2 (hei ▸ hi) ((assignLoopErrs_nil st b herr).1 e he).2 (hfresh e he)
  rw [hei, hp] at this; cases this

theorem legalChoice_iff (st : State) (ids : List Nat) (ch : List Int) :
    legalChoice st ids ch = true ↔
      ch.length = ids.length ∧ ch.Pairwise (· ≠ ·) ∧ ∀ s ∈ ch, 0 ≤ s ∧ s < st.maxSeat ∧ st.seats s = none := by
  rw [legalChoice, Bool.and_eq_true, Bool.and_eq_true, beq_iff_eq, allDistinctI_iff, List.all_eq_true, and_assoc]
  refine and_congr_right fun _ => and_congr_right fun _ => forall₂_congr fun s _ => ?_
  rw [Bool.and_eq_true, inRange_iff, Bool.not_eq_true', occupiedAt, Option.isSome_eq_false_iff, Option.isNone_iff_eq_none,
    and_assoc]

theorem randomAssign_ok_placed (st : State) (ids : List Nat) (ch : List Int) (hl : legalChoice st ids ch = true)
    (h : (randomAssign st ids ch).2 = .ok) :
    (randomAssign st ids ch).1 = placeAll st (ids.zip ch) ∧ Placeable st (ids.zip ch) ∧ ch.length = ids.length := by
  obtain ⟨hlen, hdist, hall⟩ := (legalChoice_iff st ids ch).1 hl
  rcases randomAssign_cases st ids ch with ⟨e, he⟩ | ⟨heq, hfresh, hd⟩
  · rw [he] at h; cases h
  -- ids and seats are as many, so the pairs are told apart by either component like `ids` and `ch` themselves
  refine ⟨by rw [heq], ⟨fun e he => ?_, fun e he => fresh_nowhere st e.1 (hfresh _ (List.of_mem_zip he).1),
    List.pairwise_map.1 (by rw [List.map_snd_zip (Nat.le_of_eq hlen)]; exact hdist),
    List.pairwise_map.1 (by rw [List.map_fst_zip (Nat.le_of_eq hlen.symm)]; exact (allDistinct_iff ids).1 hd)⟩, hlen⟩
  obtain ⟨h0, hn, hnone⟩ := hall e.2 (List.of_mem_zip he).2
  exact ⟨h0, hn, by rw [idAt, hnone]; rfl⟩

/-- an accepted `AssignSeats` followed by an accepted `RandomAssignSeats` whose recorded draw is legal: one batch of
placements, the drawn seats behind the fixed ones -/
theorem assign_randomAssign_ok (st : State) (b : List (Nat × Int)) (ids : List Nat) (ch : List Int)
    (hb : b.Pairwise (fun a c => a.1 ≠ c.1))
    (hl : ids.isEmpty = false → legalChoice (if b.isEmpty then st else (assign st b).1) ids ch = true)
    (h1 : (assign st b).2 = .ok) (h2 : (randomAssign (assign st b).1 ids ch).2 = .ok) :
    ∃ b', (randomAssign (assign st b).1 ids ch).1 = placeAll st (b ++ b') ∧ Placeable st (b ++ b') ∧ b'.map (·.1) = ids := by
  obtain ⟨f0, p1⟩ := assign_ok_placed st b hb h1
  have hl' : ids.isEmpty = false → legalChoice (placeAll st b) ids ch = true := by
    cases b with
    | nil => exact hl
    | cons => rw [← f0]; exact hl
  rw [f0] at h2 ⊢
  cases ids with
  | nil => rw [randomAssign_nil]; exact ⟨[], by rw [List.append_nil], by rw [List.append_nil]; exact p1, rfl⟩
  | cons x t =>
    obtain ⟨g0, p2, g5⟩ := randomAssign_ok_placed _ _ ch (hl' rfl) h2
    exact ⟨_, by rw [g0, placeAll_append], p1.append p2, List.map_fst_zip (Nat.le_of_eq g5.symm)⟩

end SM
