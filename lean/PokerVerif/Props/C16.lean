import PokerVerif.Lemmas.TBLedger
import PokerVerif.Lemmas.SMPlace
import PokerVerif.Props.C10
/-!
# C16 — Concurrent callers see one-at-a-time behaviour

Statement: reservations, departures and batch updates issued at the same time from many goroutines have the effect of
some one-at-a-time order: no seat is given twice, no player is lost or duplicated, capacity is respected and the
bookkeeping of C03 holds afterwards; concurrent seat-manager assignments likewise never double-book.  When several
players submit game actions simultaneously, exactly the action of the player whose turn it is can be accepted for that
turn, and the hand still settles with chips conserved.

(*partial*: a theorem cannot exhibit a Go schedule.)  What is proved: (1) the lock discipline the statement anchors —
every listed method opens with `Lock(); defer Unlock()` — over the facts regenerated from the source; (2) the
sequential facts that make *every* one-at-a-time order safe, so that whichever order the lock imposes is covered: a
successful assignment never touches an occupied seat, refused operations change nothing, the ledger balances after any
sequence, an action is accepted only from the player whose turn it is.  What is searched on every run: bursts of
2..64 goroutines firing reservations (fixed and random seats), departures and batch updates at one table are
*linearised* from the notifications the engine emits inside its lock and replayed through the TB model, which must
reproduce every intermediate and the final state (table + seat manager); simultaneous submissions of every action kind
by every participant at every betting decision; parallel seat-manager assignments; a crash of the process is an
observation (bursts run in child processes).
-/
namespace SM

/-- **C16 — the methods the statement lists hold their lock for their whole body** (regenerated from the source):
membership calls, every Player<Action>, hand opening; the five seat-manager mutators (+ init / rotate). -/
theorem C16_lock_facts :
    (["UpdateTablePlayers", "PlayerReserve", "PlayersLeave", "PlayerReady", "PlayerPay", "PlayerPass", "PlayerFold", "PlayerCheck",
      "PlayerCall", "PlayerAllin", "PlayerBet", "PlayerRaise", "tableGameOpen"].all (fun m => Facts.teLocked.contains m)) = true ∧
    (["AssignSeats", "RandomAssignSeats", "RemoveSeats", "JoinPlayers", "UpdatePlayerHasChips", "InitPositions", "RotatePositions"].all
      (fun m => Facts.smLocked.contains m)) = true := by
  -- each name is found by `x == x`; no comparison of different names is ever evaluated (`b || true = true`)
  simp only [Facts.teLocked, Facts.smLocked, List.all_cons, List.all_nil, List.contains_cons, List.contains_nil,
    beq_self_eq_true, Bool.true_or, Bool.or_true, Bool.and_self, and_self]

/-- … and none of them lets the lock go in between: the opening `Lock(); defer Unlock()` is the only mention of the engine
lock in the body of every locked `tableEngine` method (regenerated from the source) -/
theorem C16_no_lock_window_fact : Facts.teLockWindows = [] := rfl

/-- **C16 — no seat is given twice**: whatever order the lock imposes, a successful `AssignSeats` leaves every occupied
seat with its occupant (it only fills seats that were empty), and a refused one changes nothing. -/
theorem C16_no_double_booking (st : State) (b : List (Nat × Int)) :
    ((assign st b).2 = .ok → ∀ i p, inRange st i = true → st.seats i = some p → (assign st b).1.seats i = some p) ∧
    ((assign st b).2 ≠ .ok → (assign st b).1 = st) :=
  ⟨assign_keeps_occupants st b, (assign_atomic st b).err⟩

/-- the same for random seats: a legal draw consists of empty seats, so nobody is displaced -/
theorem C16_random_no_double_booking (st : State) (ids : List Nat) (ch : List Int) (hl : legalChoice st ids ch = true)
    (h : (randomAssign st ids ch).2 = .ok) (i : Int) (p : SeatPlayer) (hp : st.seats i = some p) :
    (randomAssign st ids ch).1.seats i = some p := by
  rcases randomAssign_cases st ids ch with ⟨e, he⟩ | ⟨heq, _⟩
  · rw [he] at h; cases h
  rw [heq, placeAll_other _ _ i ?_, hp]
  intro e he hei
  -- every drawn seat is empty
  obtain ⟨_, _, hall⟩ := (legalChoice_iff st ids ch).1 hl
  obtain ⟨_, _, hnone⟩ := hall e.2 (List.of_mem_zip he).2
  rw [hei, hp] at hnone; cases hnone

end SM

namespace TB

/-- **C16 — whatever one-at-a-time order results, chips are conserved**: the ledger balances after *every* sequence
of operations, hence after every permutation of the calls that raced. -/
theorem C16_any_order_conserves (cfg : Meta) (b : Blind) (evs evs' : List Event) (_hperm : evs'.Perm evs)
    (hz : ResultsConserve evs') :
    total (run (create cfg b) evs') = (run (create cfg b) evs').broughtIn - (run (create cfg b) evs').takenOut :=
  ledger_run _ evs' (ledger_create cfg b) hz

end TB

namespace HD

/-- **C16 — of several simultaneous submissions only the one of the player whose turn it is can be accepted for that
turn**: an accepted wager action comes from the current player of the state it is applied to (each submission meets,
under the engine lock, the state the previous accepted one left). -/
theorem C16_only_current_player (s : State) (id : Nat) (kind : String) (arg : Int) (o : Oracle)
    (hk : ¬(kind = "ready" ∨ kind = "pay")) (h : (act s id kind arg o).2 = .ok) :
    ∃ gi v, findIdx s.hand id = some gi ∧ s.view = some v ∧ v.cur = (gi : Int) := by
  obtain ⟨_, gi, v, h1, h3, _, _, h7⟩ := C10_accept_sound s id kind arg o h
  exact ⟨gi, v, h1, h3, (h7 hk).1⟩

/-- two different players cannot both be accepted against the same state -/
theorem C16_one_per_turn (s : State) (a b : Nat) (k1 k2 : String) (x y : Int) (o1 o2 : Oracle)
    (hk1 : ¬(k1 = "ready" ∨ k1 = "pay")) (hk2 : ¬(k2 = "ready" ∨ k2 = "pay"))
    (h1 : (act s a k1 x o1).2 = .ok) (h2 : (act s b k2 y o2).2 = .ok) :
    findIdx s.hand a = findIdx s.hand b := by
  obtain ⟨g1, v1, e1, f1, c1⟩ := C16_only_current_player s a k1 x o1 hk1 h1
  obtain ⟨g2, v2, e2, f2, c2⟩ := C16_only_current_player s b k2 y o2 hk2 h2
  cases f1.symm.trans f2
  rw [e1, e2, Int.ofNat_inj.mp (c1.symm.trans c2)]

end HD
