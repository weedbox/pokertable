import PokerVerif.Lemmas.TBOpen
import PokerVerif.Lemmas.SMIds
/-!
# What each operation of the table touches

The case lemmas of `TBBasic` say what an operation returns; here, what that means for the rest of the table: the table given
with other values in the few fields the operation writes, the new player list / seat manager agreeing with the old up to the
few updates made in an entry (`AgreeBut`; operations that write the same fields share a relation: `Paid`, `SatIn`,
`Attempted`).  `step_induct` is the way invariants of the table are shown: a step is calm, an arrival, a departure, or a
departure followed by an arrival.  `calm_keeps` is the one sweep over the calm events (`Kept`).
-/

namespace TB

def setIn (b : Bool) (p : Player) : Player := { p with isIn := b }
def setBank (c : Int) (p : Player) : Player := { p with bankroll := c }
def setHand (x : Bool × List String) (p : Player) : Player := { p with participated := x.1, positions := x.2 }

/-- the two lists show the same players, in the same order, to every projection that the updates `u` do not affect -/
structure AgreeBut {ι : Type} (u : ι → Player → Player) (ps' ps : List Player) : Prop where
  map : ∀ {α : Type} (π : Player → α), (∀ i p, π (u i p) = π p) → ps'.map π = ps.map π

theorem AgreeBut.refl {ι : Type} (u : ι → Player → Player) (ps : List Player) : AgreeBut u ps ps := ⟨fun _ _ => rfl⟩
theorem AgreeBut.trans {ι : Type} {u : ι → Player → Player} {a b c : List Player} (h1 : AgreeBut u a b)
    (h2 : AgreeBut u b c) : AgreeBut u a c := ⟨fun π hπ => (h1.map π hπ).trans (h2.map π hπ)⟩
theorem AgreeBut.modify {ι : Type} (u : ι → Player → Player) (ps : List Player) (k : Nat) (f : Player → Player)
    (hf : ∀ p, ∃ i, f p = u i p) : AgreeBut u (modAt ps k f) ps :=
  ⟨fun π hπ => modify_map ps k f π (fun p => by obtain ⟨i, h⟩ := hf p; rw [h, hπ])⟩
theorem AgreeBut.map_self {ι : Type} (u : ι → Player → Player) (ps : List Player) (f : Player → Player)
    (hf : ∀ p, ∃ i, f p = u i p) : AgreeBut u (ps.map f) ps :=
  ⟨fun π hπ => by rw [List.map_map]; exact List.map_congr_left (fun p _ => by obtain ⟨i, h⟩ := hf p; simp [h, hπ])⟩
theorem AgreeBut.cons {ι : Type} {u : ι → Player → Player} {p' p : Player} {t' t : List Player} (hp : ∃ i, p' = u i p)
    (ht : AgreeBut u t' t) : AgreeBut u (p' :: t') (p :: t) :=
  ⟨fun π hπ => by obtain ⟨i, rfl⟩ := hp; simp only [List.map_cons, hπ, ht.map π hπ]⟩
theorem AgreeBut.append {ι : Type} {u : ι → Player → Player} {a' a b' b : List Player} (h1 : AgreeBut u a' a)
    (h2 : AgreeBut u b' b) : AgreeBut u (a' ++ b') (a ++ b) :=
  ⟨fun π hπ => by rw [List.map_append, List.map_append, h1.map π hπ, h2.map π hπ]⟩

/-- `t` is `s` after sit-ins: other seated-in flags (in the list and in the seat manager), auto-join group and `started` -/
def SatIn (t s : State) : Prop :=
  ∃ ps sm rg ad st, t = { s with players := ps, sm := sm, autoRg := rg, autoDone := ad, started := st } ∧
    AgreeBut setIn ps s.players ∧ SM.AgreeBut SM.setIn sm s.sm

theorem SatIn.refl (s : State) : SatIn s s := ⟨_, _, _, _, _, rfl, .refl _ _, .refl _ _⟩
theorem SatIn.trans {a b c : State} (h1 : SatIn a b) (h2 : SatIn b c) : SatIn a c := by
  obtain ⟨_, _, _, _, _, rfl, p1, s1⟩ := h1
  obtain ⟨_, _, _, _, _, rfl, p2, s2⟩ := h2
  exact ⟨_, _, _, _, _, rfl, p1.trans p2, s1.trans s2⟩

/-- sit-ins: `PlayerJoin` and the auto-join completions are `joinCore`s and writes to the auto-join bookkeeping; a
property that both keep is kept by them -/
theorem join_induct {P : State → Prop} (core : ∀ s id, P s → P (joinCore s id).1)
    (auto : ∀ s rg ad st, P s → P { s with autoRg := rg, autoDone := ad, started := st }) :
    (∀ s id, P s → P (join s id).1) ∧ (∀ s, P s → P (autoJoinStale s)) := by
  have fold : ∀ {α : Type} (f : State → α → State), (∀ s a, P s → P (f s a)) → ∀ (l : List α) s, P s → P (l.foldl f s) := by
    intro α f hf l
    induction l with
    | nil => exact fun _ h => h
    | cons a t ih => exact fun s h => ih _ (hf s a h)
  have complete : ∀ s, P s → P (autoJoinComplete s) := by
    intro s h
    have h' := fold (fun acc (p : Player) => (joinCore acc p.id).1) (fun s p => core s p.id) s.players s h
    fun_cases autoJoinComplete s
    · exact auto _ _ _ true h'
    · exact h'
  have join : ∀ s id, P s → P (join s id).1 := by
    intro s id h
    have hj := core s id h
    fun_cases join s id
    case case2 s1 _ _ _ _ _ _ hc => rw [hc] at hj; exact complete _ (auto s1 _ true _ hj)
    case case3 s1 _ _ _ _ _ _ hc => rw [hc] at hj; exact auto s1 _ _ _ hj
    all_goals rename_i hc; rw [hc] at hj; exact hj
  exact ⟨join, fun s h => fold (fun acc (p : Player) => (TB.join acc p.id).1) (fun s p => join s p.id) s.players s h⟩

theorem joinCore_satIn (s : State) (id : Nat) : SatIn (joinCore s id).1 s := by
  rcases joinCore_cases s id with ⟨_, h⟩ | ⟨i, _, _, _, ⟨_, _, h⟩ | ⟨_, h⟩⟩ <;> rw [h]
  · exact .refl s
  · exact ⟨_, _, _, _, _, rfl, .modify setIn _ _ _ (fun _ => ⟨true, rfl⟩), .refl _ _⟩
  · exact ⟨_, _, _, _, _, rfl, .modify setIn _ _ _ (fun _ => ⟨true, rfl⟩), SM.join_agree _ _⟩

theorem satIn_induct (s0 : State) :
    (∀ s id, SatIn s s0 → SatIn (join s id).1 s0) ∧ (∀ s, SatIn s s0 → SatIn (autoJoinStale s) s0) :=
  join_induct (P := (SatIn · s0)) (fun s id h => (joinCore_satIn s id).trans h)
    (fun _ _ _ _ h => SatIn.trans ⟨_, _, _, _, _, rfl, .refl _ _, .refl _ _⟩ h)

theorem join_satIn (s : State) (id : Nat) : SatIn (join s id).1 s := (satIn_induct s).1 s id (.refl s)

theorem autoJoinStale_satIn (s : State) : SatIn (autoJoinStale s) s := (satIn_induct s).2 s (.refl s)

/-- `t` is `s` after a payment: other bankrolls, has-chips flags of the seat manager and buy-in ledger -/
def Paid (t s : State) : Prop :=
  ∃ ps sm bi, t = { s with players := ps, sm := sm, broughtIn := bi } ∧
    AgreeBut setBank ps s.players ∧ SM.AgreeBut SM.setHasChips sm s.sm

theorem payIn_paid (s : State) (i id : Nat) (c : Int) (b : Bool) : Paid (payIn s i c (SM.setChips s.sm id b)).1 s := by
  obtain ⟨sm, hsm, h⟩ := payIn_eq s i c (SM.setChips s.sm id b)
  refine ⟨_, sm, _, h, .modify setBank _ _ _ (fun _ => ⟨_, rfl⟩), ?_⟩
  rcases hsm with rfl | rfl
  · exact .refl _ _
  · exact SM.setChips_agree _ _ _

theorem redeem_paid (s : State) (id : Nat) (c : Int) : Paid (redeem s id c).1 s := by
  rcases redeem_cases s id c with ⟨_, h⟩ | ⟨i, b, _, h⟩ <;> rw [h]
  · exact ⟨_, _, _, rfl, .refl _ _, .refl _ _⟩
  · exact payIn_paid s i id c b

theorem reserve_paid (s : State) (j : Join) (ch : List Int) (h : findPlayerIdx s j.id ≠ none) : Paid (reserve s j ch).1 s := by
  rcases reserve_cases s j ch with ⟨hf, _⟩ | ⟨hf, _⟩ | ⟨i, _, h'⟩
  · exact absurd hf h
  · exact absurd hf h
  · rw [h']; exact payIn_paid s i j.id j.chips true

theorem finish_shape (s : State) (id : Nat) : ∃ g, (finish s id).1 = { s with gate := g } := by
  fun_cases finish s id <;> exact ⟨_, rfl⟩

theorem settle_shape (s : State) (r : List (Nat × Int)) :
    ∃ ps nb, (settle s r).1 = { s with status := .settled, players := ps, nextBB := nb } ∧ AgreeBut setBank ps s.players := by
  rcases settle_induct s r (fun _ ps => AgreeBut setBank ps s.players) (.refl _ _)
    (fun _ _ _ _ _ _ hb => (AgreeBut.modify setBank _ _ _ fun _ => ⟨_, rfl⟩).trans hb) with ⟨h, _⟩ | h
  · exact ⟨_, _, h, .refl _ _⟩
  · exact h

theorem nextMove_shape (s : State) (e : Bool) :
    ∃ st gc g, (nextMove s e).1 = { s with status := st, gateCount := gc, gate := g } ∧ (st = s.status ∨ st = .pausing) := by
  fun_cases nextMove s e
  case case4 => exact ⟨_, _, _, rfl, .inr rfl⟩
  all_goals exact ⟨_, _, _, rfl, .inl rfl⟩

theorem refreshPlayers_shape (sm : SM.State) (ps : List Player) (r : SM.State × List Player)
    (h : refreshPlayers sm ps = some r) : AgreeBut setHand r.2 ps ∧ SM.AgreeBut SM.setHasChips r.1 sm := by
  refine foldl_some_inv (v := []) (fun _ => rfl) (fun v r => AgreeBut setHand r.2 v ∧ SM.AgreeBut SM.setHasChips r.1 sm)
    ?_ h ⟨.refl _ _, .refl _ _⟩
  intro v r p r' hs ⟨hp, hsm⟩
  obtain ⟨sm1, done⟩ := r
  simp only at hs
  split at hs
  · cases hs
  · split at hs
    · cases hs
    · cases hs
      exact ⟨.append hp (.cons ⟨(_, []), rfl⟩ (.refl _ _)), (SM.setChips_agree _ _ _).trans hsm⟩

theorem continueGame_shape (s : State) (e : Bool) :
    ∃ st sm ps gc g,
      (continueGame s e).1 =
        { s with status := st, gidx := [], nextBB := [], hasGame := false, sm := sm, players := ps, gateCount := gc, gate := g } ∧
      (st = .standby ∨ st = .pausing) ∧ AgreeBut setHand ps s.players ∧ SM.AgreeBut SM.setHasChips sm s.sm := by
  rcases continueGame_cases s e with ⟨_, h⟩ | ⟨sm, ps, hrp, h⟩
  · rw [h]; exact ⟨_, _, _, _, _, rfl, .inl rfl, .refl _ _, .refl _ _⟩
  · rw [h]
    obtain ⟨hp, hsm⟩ := refreshPlayers_shape s.sm s.players (sm, ps) hrp
    obtain ⟨st, gc, g, hn, hst⟩ := nextMove_shape { resetHand s with sm := sm, players := ps } e
    rw [hn]
    exact ⟨_, _, _, _, _, rfl, hst, hp, hsm⟩

/-- `t` is `s` after an attempt to open a hand, as far as everything outside the hand cycle goes -/
def Attempted (t s : State) : Prop :=
  ∃ g sm ps st gi gc d sb bb gb hg,
    t = { s with gate := g, sm := sm, players := ps, status := st, gidx := gi, gameCount := gc, dealer := d, sb := sb, bb := bb,
                 gameBlind := gb, hasGame := hg } ∧
    AgreeBut setHand ps s.players ∧ SM.AgreeBut SM.setBetween sm s.sm

/-- `openGame` + `startGame`: only the waiting flags of the seat manager, and the dealt-in flags and labels of the list, can
differ — whether the attempt ends before `openGame` has written anything but the seat manager, after `openGame`, or with the
hand started -/
theorem openCore_attempted (s : State) (ch : Option Int) (ok : Bool) : Attempted (openCore s ch ok).1 s := by
  have hsm : SM.AgreeBut SM.setBetween (if !s.sm.isInit then SM.init s.sm ch else SM.rotate s.sm).1 s.sm := by
    split
    · exact SM.init_agree _ _
    · exact SM.rotate_agree _
  rcases openCore_cases s ch ok with ⟨h, _⟩ | ⟨ps, gi, ps2, _, hm, _, hap, h⟩
  · rw [h]; exact ⟨_, _, _, _, _, _, _, _, _, _, _, rfl, .refl _ _, hsm⟩
  · have hp : AgreeBut setHand ps2 s.players := by
      rw [dealIn_eq _ _ _ hm] at hap
      exact (AgreeBut.mk (fun π hπ => assignPositions_map π (fun p l => hπ (p.participated, l) p) _ _ _ hap)).trans
        (.map_self _ _ _ (fun p => ⟨(_, p.positions), rfl⟩))
    rcases h with ⟨h, _⟩ | h <;> rw [h] <;> exact ⟨_, _, _, _, _, _, _, _, _, _, _, rfl, hp, hsm⟩

theorem gateFire_attempted (s : State) (ch : Option Int) (ok : Bool) : Attempted (gateFire s ch ok).1 s := by
  rcases gateFire_cases s ch ok with ⟨o, h, _⟩ | ⟨_, h⟩
  · rw [h]; exact ⟨_, _, _, _, _, _, _, _, _, _, _, rfl, .refl _ _, .refl _ _⟩
  · rw [h]
    obtain ⟨_, _, _, _, _, _, _, _, _, _, _, h, hp, hs⟩ := openCore_attempted (gateReady s) ch ok
    rw [h]; exact ⟨_, _, _, _, _, _, _, _, _, _, _, rfl, hp, hs⟩

theorem retryOpen_attempted (s : State) (ch : Option Int) (ok : Bool) : Attempted (retryOpen s ch ok).1 s := by
  rcases retryOpen_cases s ch ok with ⟨_, h, _⟩ | ⟨_, _, _, _, _, h⟩ <;> rw [h]
  · exact ⟨_, _, _, _, _, _, _, _, _, _, _, rfl, .refl _ _, .refl _ _⟩
  · exact openCore_attempted s ch ok

/-- the events that in state `s` are neither an arrival nor a departure -/
def Calm (s : State) : Event → Prop
  | .reserve j _ => findPlayerIdx s j.id ≠ none
  | .leave _ | .update _ _ _ => False
  | _ => True

/-- what is asked of the arrivals (`arrive`) and departures (`depart`) an event makes, each in the state it is made in: a
`PlayerReserve` of a newcomer is an arrival, `UpdateTablePlayers` is its departures, then its arrivals -/
def EventCond (arrive : State → List Join → List Int → Prop) (depart : State → List Nat → Prop) (s : State) : Event → Prop
  | .reserve j ch => findPlayerIdx s j.id = none → arrive s [j] ch
  | .leave ids => depart s ids
  | .update js lv ch => (lv.isEmpty = false → depart s lv) ∧ arrive (if lv.isEmpty then s else (batchRemove s lv).1) js ch
  | _ => True

/-- how an invariant of the table is shown: every step is calm, an arrival, a departure, or a departure followed by an
arrival; so `P` survives a step if `batchAdd` (where `arrive` holds) and `batchRemove` (where `depart` holds) keep it and the
step, if it is calm, keeps it — which is asked of the event at hand only, so that the proof may use what else is known of it -/
theorem step_induct {P : State → Prop} {arrive : State → List Join → List Int → Prop} {depart : State → List Nat → Prop}
    (add : ∀ s js ch, P s → arrive s js ch → P (batchAdd s js ch).1)
    (rem : ∀ s ids, P s → depart s ids → P (batchRemove s ids).1)
    {s : State} {e : Event} (hs : P s) (hc : EventCond arrive depart s e) (calm : Calm s e → P (step s e)) :
    P (step s e) := by
  by_cases hcalm : Calm s e
  · exact calm hcalm
  cases e with
  | reserve j ch =>
    show P (reserve s j ch).1
    rcases reserve_cases s j ch with ⟨_, _, h⟩ | ⟨hf, _, h⟩ | ⟨i, hi, _⟩
    · rw [h]; exact hs
    · rw [h]; exact add s [j] ch hs (hc hf)
    · exact absurd (fun hn => nomatch hi.symm.trans hn) hcalm
  | leave ids => exact rem s ids hs hc
  | update js lv ch =>
    have h1 : P (if lv.isEmpty then s else (batchRemove s lv).1) := by
      split
      · exact hs
      · rename_i hl; exact rem s lv hs (hc.1 (by simpa using hl))
    show P (update s js lv ch).1
    rcases update_cases s js lv ch with h | h <;> rw [h]
    · exact h1
    · exact add _ js ch h1 hc.2
  | _ => exact absurd trivial hcalm

theorem step_induct' {P : State → Prop} (add : ∀ s js ch, P s → P (batchAdd s js ch).1)
    (rem : ∀ s ids, P s → P (batchRemove s ids).1) {s : State} {e : Event} (hs : P s) (calm : Calm s e → P (step s e)) :
    P (step s e) := by
  refine step_induct (arrive := fun _ _ _ => True) (depart := fun _ _ => True) (fun s js ch h _ => add s js ch h)
    (fun s ids h _ => rem s ids h) hs ?_ calm
  cases e with
  | reserve => exact fun _ => trivial
  | update => exact ⟨fun _ => trivial, trivial⟩
  | _ => trivial

/-- `CreateTable` given players is a batch join on the fresh table followed, at most, by a change of status: what the
batch join establishes and a change of status keeps holds of the table created -/
theorem createJoin_induct {P : State → Prop} (hst : ∀ s st, P s → P { s with status := st })
    (s : State) (js : List Join) (ch : List Int) (h : P (step s (.update js [] ch))) : P (createJoin s js ch).1 := by
  have hu : update s js [] ch = if js.isEmpty then (s, .ok) else batchAdd s js ch := rfl
  rw [show step s (.update js [] ch) = _ from congrArg Prod.fst hu] at h
  fun_cases createJoin s js ch
  case case1 hj => rwa [if_pos hj] at h
  case case2 hj _ _ =>
    rw [if_neg hj] at h
    dsimp only
    split
    · exact hst _ _ h
    · exact h
  case case3 hj _ _ => rwa [if_neg hj] at h

/-- … and along a history: `histOK` says of a history what `evOK` says of each of its events in the state it meets -/
theorem run_induct {P : State → Prop} {evOK : State → Event → Prop} {histOK : State → List Event → Prop}
    (hcons : ∀ s e t, histOK s (e :: t) → evOK s e ∧ histOK (step s e) t) (hstep : ∀ s e, P s → evOK s e → P (step s e))
    (s : State) (evs : List Event) (h : P s) (hx : histOK s evs) : P (run s evs) := by
  induction evs generalizing s with
  | nil => exact h
  | cons e t ih => exact ih _ (hstep s e h (hcons s e t hx).1) (hcons s e t hx).2

def NoSitIn : Event → Prop
  | .join _ | .autojoin => False
  | _ => True

def NoPay : Event → Prop
  | .reserve _ _ | .redeem _ _ | .settle _ => False
  | _ => True

/-- the events outside the hand cycle: arrivals, departures, sit-ins, payments, level changes, `start`, the gate's set-up and
signals, the auto-join completion -/
def Outside : Event → Prop
  | .pause | .close | .release | .fire _ _ | .retry _ _ | .settle _ | .continue _ | .contReset | .tick _ => False
  | _ => True

def Opening (e : Event) : Prop := ∃ ch ok, e = .fire ch ok ∨ e = .retry ch ok

/-- what the step `e` has left alone on its way from `s` to `t`; `π` and `g` are what one wants to see kept of a listed
player and of an occupant of the seat manager (a payment may change a bankroll, a sit-in a seated-in flag, an open the hand
data) -/
structure Kept (s : State) (e : Event) (t : State) : Prop where
  seatMap : t.seatMap = s.seatMap
  cfg : t.cfg = s.cfg
  takenOut : t.takenOut = s.takenOut
  broughtIn : NoPay e → t.broughtIn = s.broughtIn
  players : ∀ {α : Type} (π : Player → α), (NoPay e ∨ ∀ c p, π (setBank c p) = π p) → (∀ x p, π (setHand x p) = π p) →
    (NoSitIn e ∨ ∀ b p, π (setIn b p) = π p) → t.players.map π = s.players.map π
  seats : ∀ {β : Type} (g : SM.SeatPlayer → β), (∀ b p, g (SM.setHasChips b p) = g p) → (∀ b p, g (SM.setBetween b p) = g p) →
    (NoSitIn e ∨ ∀ b p, g (SM.setIn b p) = g p) → ∀ k, (t.sm.seats k).map g = (s.sm.seats k).map g
  maxSeat : t.sm.maxSeat = s.sm.maxSeat
  gidx : ¬ Opening e → t.gidx = s.gidx ∨ t.gidx = []
  status : Outside e → t.status = s.status
  hasGame : Outside e → t.hasGame = s.hasGame
  gameCount : ¬ Opening e → t.gameCount = s.gameCount
  gameBlind : ¬ Opening e → t.gameBlind = s.gameBlind
  stillReleased : s.released = true → t.released = true

theorem Paid.kept {s t : State} {e : Event} (h : Paid t s) (hn : ¬ NoPay e) : Kept s e t := by
  obtain ⟨_, _, _, rfl, hp, hs⟩ := h
  exact { seatMap := rfl, cfg := rfl, takenOut := rfl, broughtIn := fun h => absurd h hn,
          players := fun π π1 _ _ => hp.map π (π1.resolve_left hn), seats := fun g g1 _ _ => hs.seats g g1,
          maxSeat := hs.maxSeat, gidx := fun _ => .inl rfl, status := fun _ => rfl, hasGame := fun _ => rfl,
          gameCount := fun _ => rfl, gameBlind := fun _ => rfl, stillReleased := id }

theorem SatIn.kept {s t : State} {e : Event} (h : SatIn t s) (hn : ¬ NoSitIn e) : Kept s e t := by
  obtain ⟨_, _, _, _, _, rfl, hp, hs⟩ := h
  exact { seatMap := rfl, cfg := rfl, takenOut := rfl, broughtIn := fun _ => rfl,
          players := fun π _ _ π3 => hp.map π (π3.resolve_left hn), seats := fun g _ _ g3 => hs.seats g (g3.resolve_left hn),
          maxSeat := hs.maxSeat, gidx := fun _ => .inl rfl, status := fun _ => rfl, hasGame := fun _ => rfl,
          gameCount := fun _ => rfl, gameBlind := fun _ => rfl, stillReleased := id }

theorem Attempted.kept {s t : State} {e : Event} (h : Attempted t s) (ho : Opening e) (hc : ¬ Outside e) : Kept s e t := by
  obtain ⟨_, _, _, _, _, _, _, _, _, _, _, rfl, hp, hs⟩ := h
  exact { seatMap := rfl, cfg := rfl, takenOut := rfl, broughtIn := fun _ => rfl,
          players := fun π _ π2 _ => hp.map π π2, seats := fun g _ g2 _ => hs.seats g g2, maxSeat := hs.maxSeat,
          gidx := fun h => absurd ho h, status := fun h => absurd h hc, hasGame := fun h => absurd h hc,
          gameCount := fun h => absurd ho h, gameBlind := fun h => absurd ho h, stillReleased := id }

theorem continueGame_kept (s : State) (ex : Bool) {e : Event} (hc : ¬ Outside e) : Kept s e (continueGame s ex).1 := by
  obtain ⟨_, _, _, _, _, h, _, hp, hs⟩ := continueGame_shape s ex
  rw [h]
  exact { seatMap := rfl, cfg := rfl, takenOut := rfl, broughtIn := fun _ => rfl,
          players := fun π _ π2 _ => hp.map π π2, seats := fun g g1 _ _ => hs.seats g g1, maxSeat := hs.maxSeat,
          gidx := fun _ => .inr rfl, status := fun h => absurd h hc, hasGame := fun h => absurd h hc,
          gameCount := fun _ => rfl, gameBlind := fun _ => rfl, stillReleased := id }

/-- a step that writes only the status, the gate, the released flag, the blind level or `started` -/
theorem Kept.admin {s t : State} {e : Event} {st : Status} {gc : Nat} {g : List Part} {rel : Bool} {bl : Blind} {sd : Bool}
    (h : t = { s with status := st, gateCount := gc, gate := g, released := rel, blind := bl, started := sd })
    (hst : Outside e → st = s.status) (hrel : s.released = true → rel = true) : Kept s e t := by
  subst h
  exact { seatMap := rfl, cfg := rfl, takenOut := rfl, broughtIn := fun _ => rfl, players := fun _ _ _ _ => rfl,
          seats := fun _ _ _ _ _ => rfl, maxSeat := rfl, gidx := fun _ => .inl rfl, status := hst, hasGame := fun _ => rfl,
          gameCount := fun _ => rfl, gameBlind := fun _ => rfl, stillReleased := hrel }

theorem calm_keeps (s : State) (e : Event) (hc : Calm s e) : Kept s e (step s e) := by
  cases e with
  | reserve j ch => exact (reserve_paid s j ch hc).kept id
  | redeem pid c => exact (redeem_paid s pid c).kept id
  | join pid => exact (join_satIn s pid).kept id
  | autojoin => exact (autoJoinStale_satIn s).kept id
  | fire ch ok => exact (gateFire_attempted s ch ok).kept ⟨ch, ok, .inl rfl⟩ id
  | retry ch ok => exact (retryOpen_attempted s ch ok).kept ⟨ch, ok, .inr rfl⟩ id
  | «continue» ex => exact continueGame_kept s ex id
  | contReset => exact continueGame_kept s true id
  | settle r =>
    obtain ⟨_, _, h, hp⟩ := settle_shape s r
    -- `step s (.settle r)` is `(settle s r).1` by `rfl`, and `h` says what that is
    rw [show step s (.settle r) = _ from h]
    exact { seatMap := rfl, cfg := rfl, takenOut := rfl, broughtIn := False.elim,
            players := fun π π1 _ _ => hp.map π (π1.resolve_left id), seats := fun _ _ _ _ _ => rfl, maxSeat := rfl,
            gidx := fun _ => .inl rfl, status := False.elim, hasGame := False.elim, gameCount := fun _ => rfl,
            gameBlind := fun _ => rfl, stillReleased := id }
  | leave | update => exact hc.elim
  | finish pid =>
    obtain ⟨_, h⟩ := finish_shape s pid
    exact .admin h (fun _ => rfl) id
  | tick ex =>
    obtain ⟨_, _, _, h, _⟩ := nextMove_shape s ex
    exact .admin h False.elim id
  | pause => exact .admin (st := .pausing) rfl False.elim id
  | close => exact .admin (st := .closed) (rel := true) rfl False.elim fun _ => rfl
  | release => exact .admin (rel := true) rfl False.elim fun _ => rfl
  | blind b => exact .admin (bl := b) rfl (fun _ => rfl) id
  | start => exact .admin (sd := true) rfl (fun _ => rfl) id
  | setup gc ps => exact .admin (gc := gc) rfl (fun _ => rfl) id

end TB
