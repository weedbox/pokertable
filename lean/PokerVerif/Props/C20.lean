import PokerVerif.AC
/-!
# C20 — Observers never see hidden cards, and each actor gets its own copy

Statement: a non-system observer is never shown the deck, the burned cards, or any hole cards or hand strength while
a hand is in play, and after the hand closes still not those of players who folded.  Every actor is given an independent
copy of the table state, so what one runner hides or changes is invisible to the other actors and to the engine.

`AC.observerView` = `observerRunner.UpdateTableState` (the filter is applied whenever a hand state is present — a
regenerated fact) composed with pokerface's `AsObserver` (`AC.asObserver`, contract, checked against the real function
on every observer case of every run).  Isolation is stated in a reference-store model of the adapter's
marshal / unmarshal copy.  (*partial*: aliasing is a property of pointers at run time — the harness checks, for 1..5
actors in every attach order, that the engine's table and the other actors' tables are byte-identical after the
observer ran and after a write through the observer's copy, and that no two actors share `State` / `GameState`
pointers.)
-/
namespace AC

/-- the source filters whenever a hand state is present, whatever the table status (regenerated) -/
theorem C20_filter_fact : observerFilterRecognised = true := beq_self_eq_true Facts.observerUpdate

/-- registering a listener on an observer only stores it (regenerated from actor/observer_runner.go): nothing the runner
already holds — a snapshot kept unfiltered while it was in system mode, say — is handed to the newcomer -/
theorem C20_subscribe_fact : Facts.observerSubscribe = ["obr.onTableStateUpdated = fn", "return nil"] := rfl

/-- attaching an actor to an adapter only stores the two references (regenerated from actor/table_engine_adapter.go and
actor/actor.go): nothing is delivered at that moment — in particular not the table the adapter was built from, which is
the engine's own -/
theorem C20_attach_fact : Facts.adapterSetActor = ["tea.actor = a"] ∧
    Facts.actorSetAdapter = ["tc.SetActor(a)", "a.tableAdapter = tc", "return nil"] := ⟨rfl, rfl⟩

/-- the adapter marshals the table, unmarshals into a fresh value and forwards *that* (regenerated) -/
theorem C20_adapter_fact :
    Facts.adapterUpdate =
      ["data, err := tableInfo.GetJSON()", "if err != nil { return err }", "var t pokertable.Table",
       "err = json.Unmarshal([]byte(data), &t)", "if err != nil { return err }", "tea.table = &t",
       "return tea.actor.UpdateTableState(&t)"] := rfl

/-- **C20 — a non-system observer is never shown the deck, the burned cards, any hole cards or hand strength while a
hand is in play; after the hand closed still not those of players who folded** — for every hand state, and whatever
the table status is. -/
theorem C20_hidden (g : Priv) :
    ∃ o, observerView false (some g) = some o ∧ o.deck = [] ∧ o.burned = [] ∧
      (g.event ≠ "GameClosed" → ∀ h ∈ o.holes, h.2.1 = [] ∧ h.2.2 = false) ∧
      (g.event = "GameClosed" → ∀ h ∈ o.holes, h.1 = true → h.2.1 = [] ∧ h.2.2 = false) := by
  refine ⟨asObserver g, rfl, ?_⟩
  fun_cases asObserver g
  case case1 he =>
    refine ⟨rfl, rfl, fun hne => absurd (eq_of_beq he) hne, fun _ h hh hf => ?_⟩
    obtain ⟨x, _, rfl⟩ := List.mem_map.1 hh
    -- a folded player's entry has been blanked; any other is not folded
    by_cases hx : x.1 = true
    · rw [if_pos hx]; exact ⟨rfl, rfl⟩
    · rw [if_neg hx] at hf; exact absurd hf hx
  case case2 he =>
    refine ⟨rfl, rfl, fun _ h hh => ?_, fun h => absurd (beq_iff_eq.2 h) he⟩
    obtain ⟨x, _, rfl⟩ := List.mem_map.1 hh
    exact ⟨rfl, rfl⟩

/-- a system observer sees the state as it is; without a hand state there is nothing to show -/
theorem C20_system_and_empty (g : Priv) : observerView true (some g) = some g ∧ ∀ b, observerView b none = none :=
  ⟨rfl, fun _ => rfl⟩

/-- a copy that succeeds: the new address is the first free one, and its cell, which now holds what `r` holds, is the
only one that changes -/
theorem copy_some {α : Type} {s : Store α} {r a : Nat} (h : (s.copy r).2 = some a) :
    a = s.next ∧ (s.copy r).1.next = s.next + 1 ∧
    ∀ k, (s.copy r).1.cell k = if k = s.next then s.cell r else s.cell k := by
  revert h
  fun_cases Store.copy s r
  case case1 => exact nofun
  case case2 v hv => intro h; cases h; exact ⟨rfl, rfl, fun k => by rw [hv]⟩

/-- **C20 — every actor is given an independent copy**: the adapter's copy lives at a fresh address holding an equal
value, so whatever is written through it leaves the engine's table and every other actor's copy as they were. -/
theorem C20_isolated {α : Type} (s : Store α) (r : Nat) (w : α) (r2 : Nat) (h : (s.copy r).2 = some r2) :
    r2 = s.next ∧ ((s.copy r).1.get r2 = s.get r) ∧
    ∀ r3, r3 ≠ r2 → (((s.copy r).1.set r2 w).get r3 = s.get r3) := by
  obtain ⟨rfl, _, hc⟩ := copy_some h
  refine ⟨rfl, (hc _).trans (if_pos rfl), fun r3 hne => ?_⟩
  show (if r3 = s.next then some w else (s.copy r).1.cell r3) = s.cell r3
  rw [if_neg hne, hc, if_neg hne]

/-- … and two actors never get the same address -/
theorem C20_distinct_copies {α : Type} (s : Store α) (r : Nat) (a b : Nat)
    (ha : (s.copy r).2 = some a) (hb : ((s.copy r).1.copy r).2 = some b)
    (hr : r < s.next) : a ≠ b ∧ a ≠ r ∧ b ≠ r := by
  obtain ⟨rfl, hn, _⟩ := copy_some ha
  obtain ⟨rfl, _, _⟩ := copy_some hb
  rw [hn]
  exact ⟨Nat.ne_of_lt (Nat.lt_succ_self _), Nat.ne_of_gt hr, Nat.ne_of_gt (Nat.lt_succ_of_lt hr)⟩

-- non-vacuity: a running three-player hand (one folded) seen under status `pausing`, and the same hand closed
example : let g : Priv := { event := "RoundStarted", deck := ["S2", "S3"], burned := ["H4"], holes := [(false, ["SA", "SK"], true), (true, ["D2", "C7"], true), (false, ["HQ", "HJ"], true)] }
    observerView false (some g) = some { event := "RoundStarted", deck := [], burned := [], holes := [(false, [], false), (true, [], false), (false, [], false)] } ∧
    observerView false (some { g with event := "GameClosed" }) =
      some { event := "GameClosed", deck := [], burned := [], holes := [(false, ["SA", "SK"], true), (true, [], false), (false, ["HQ", "HJ"], true)] } := by decide +kernel

end AC
