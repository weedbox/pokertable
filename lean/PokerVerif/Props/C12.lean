import PokerVerif.Props.C07
/-!
# C12 — A hand is played at the blinds in force when it opened

Statement: the ante and blinds charged in a hand, and the blind level published for that hand, are those in force at
the moment it opened; changing the blind level while a hand is running affects only later hands.  When the level is
a break no hand is opened and the table pauses after the current hand; a table created on a break starts paused.

In the model `startHand` reads `BlindState` once (fact `Facts.startGameBlindRead`: the code copies the struct,
`blind := *te.table.State.BlindState`) and both the backend options and `GameBlindState` are that one value.
-/
namespace TB

/-- the source reads the blind level exactly once in startGame (regenerated from table_engine_stage.go) -/
theorem C12_single_read_fact : Facts.startGameBlindRead = "*te.table.State.BlindState" := rfl

/-- no step of the engine swaps the live table for another object (only `CreateTable` assigns it): a blind update, which
takes no engine lock and writes into the live table, cannot be dropped with a table that is thrown away — it reaches
the later hands (D31; regenerated from the source) -/
theorem C12_live_table_never_swapped_fact : Facts.teTableAssigned = ["CreateTable"] := rfl

/-- **C12 — the blind level published for a hand is the one in force when it opened** (and `BlindState` itself is
not touched by the open). -/
theorem C12_snapshot (s : State) (choice : Option Int) (createOk : Bool)
    (h : (gateFire s choice createOk).2 = .opened) :
    (gateFire s choice createOk).1.gameBlind = some s.blind ∧ (gateFire s choice createOk).1.blind = s.blind := by
  obtain ⟨_, heq⟩ := gateFire_opened s choice createOk h
  rw [heq] at h ⊢
  obtain ⟨_, _, _, _, _, _, _, h'⟩ := openCore_opened_eq _ choice createOk h
  rw [h']; exact ⟨rfl, rfl⟩

/-- **C12 — changing the level while a hand runs affects only later hands**: `UpdateBlind` leaves the hand's
published level alone, and so do settlement and the continue step; only the next open reads `BlindState`. -/
theorem C12_update_later_only (s : State) (b : Blind) :
    (setBlind s b).gameBlind = s.gameBlind ∧
    (∀ r, (settle (setBlind s b) r).1.gameBlind = s.gameBlind) ∧
    (∀ e, (continueGame (setBlind s b) e).1.gameBlind = s.gameBlind) ∧
    (∀ ch ok, (gateFire (setBlind s b) ch ok).2 = .opened → (gateFire (setBlind s b) ch ok).1.gameBlind = some b) := by
  refine ⟨rfl, ?_, ?_, ?_⟩
  · intro r
    obtain ⟨_, _, h, _⟩ := settle_shape (setBlind s b) r
    rw [h]; rfl
  · intro e
    obtain ⟨_, _, _, _, _, h, _⟩ := continueGame_shape (setBlind s b) e
    rw [h]; rfl
  · intro ch ok h
    exact (C12_snapshot _ ch ok h).1

/-- **C12 — the blinds published for a hand are written at its open and by nothing else**: of the 19 kinds of event a
table can see, only a gate firing or a retry turn *that opens a hand* changes `GameBlindState`, and it then publishes the
`BlindState` in force at that moment; every other event — level changes, membership calls, settlement, the continue step,
pause / close / release, refused or failed opens — leaves it exactly as it was. -/
theorem C12_published_only_at_an_open (s : State) (e : Event) :
    (step s e).gameBlind = s.gameBlind ∨
    ((∃ ch ok, (e = .fire ch ok ∧ (gateFire s ch ok).2 = .opened) ∨ (e = .retry ch ok ∧ (retryOpen s ch ok).2 = .opened)) ∧
      (step s e).gameBlind = some s.blind) := by
  by_cases ho : Opening e
  case neg => exact .inl (not_opening s e ho).2.1
  obtain ⟨ch, ok, rfl | rfl⟩ := ho
  · rcases gateFire_cycle s ch ok with ⟨_, _, _, _, _, h5⟩ | ⟨_, _, _, h'⟩
    · exact .inl h5
    · rw [show step s (.fire ch ok) = _ from congrArg Prod.fst h']
      rcases openCore_cycle (gateReady s) ch ok with ⟨_, _, _, hb⟩ | ⟨ho, _, _, _, hb⟩
      · exact .inl hb
      · exact .inr ⟨⟨ch, ok, .inl ⟨rfl, by rw [h']; exact ho⟩⟩, hb⟩
  · rcases retryOpen_cases s ch ok with ⟨_, h', _⟩ | ⟨_, _, _, _, _, h'⟩ <;>
      rw [show step s (.retry ch ok) = _ from congrArg Prod.fst h']
    · exact .inl rfl
    · rcases openCore_cycle s ch ok with ⟨_, _, _, hb⟩ | ⟨ho, _, _, _, hb⟩
      · exact .inl hb
      · exact .inr ⟨⟨ch, ok, .inr ⟨rfl, by rw [h']; exact ho⟩⟩, hb⟩

theorem create_on_break (cfg : Meta) (b : Blind) (hb : b.isBreaking = true) : (create cfg b).status = .pausing :=
  if_pos hb

/-- **C12 — on a break no hand is opened, the continue step pauses, and a table created on a break starts paused.** -/
theorem C12_break (s : State) (hb : s.blind.isBreaking = true) :
    (∀ ch ok, (gateFire s ch ok).2 ≠ .opened) ∧
    (∀ cfg, (create cfg s.blind).status = .pausing) :=
  ⟨fun ch ok => (C07_no_open_when s ch ok (.inr (.inr (.inr (.inl hb))))).1, fun cfg => create_on_break cfg s.blind hb⟩

/-- `CreateTable` (regenerated from table_engine.go): a table whose blind level is −1 is created `pausing`, and the only
other status it can be given at creation — `balancing`, for an MTT table created with players — is guarded by "not
pausing": exactly the two rules of `create` / `createJoin` -/
theorem C12_create_status_fact : Facts.createStatusRules =
    ["tableSetting.Blind.Level == -1 => status = TableStateStatus_TablePausing",
     "table.Meta.Mode == CompetitionMode_MTT && table.State.Status != TableStateStatus_TablePausing => table.State.Status = TableStateStatus_TableBalancing"] := rfl

/-- **C12 — a table created on a break starts paused, with or without players**: `CreateTable` with `JoinPlayers` adds the
players as a batch join and turns an MTT table `balancing` — except on a break, where it stays `pausing`, whatever the
mode, the players and the outcome of seating them -/
theorem C12_created_on_break_with_players (cfg : Meta) (b : Blind) (hb : b.isBreaking = true) (js : List Join) (ch : List Int) :
    (createWith cfg b js ch).1.status = .pausing := by
  have hc := create_on_break cfg b hb
  have hadd : (batchAdd (create cfg b) js ch).1.status = .pausing := by
    rcases batchAdd_cases (create cfg b) js ch with ⟨_, _, h, _⟩ | ⟨_, _, _, _, h⟩ <;> rw [h] <;> exact hc
  show (createJoin (create cfg b) js ch).1.status = .pausing
  fun_cases createJoin (create cfg b) js ch
  · exact hc
  · -- an MTT table turns `balancing` unless it is `pausing`
    dsimp only
    rw [hadd]
    simp only [bne_self_eq_false, Bool.and_false, Bool.false_eq_true, if_false]
    exact hadd
  · exact hadd

-- non-vacuity: an MTT table created with two players (one fixed seat, one drawn) — balancing on a playable level,
-- pausing on a break; the recorded draw is legal and both are seated
example :
    let cfg : Meta := { maxSeat := 4, minPlayers := 2, rule := .default, mode := .mtt }
    let js : List Join := [{ id := 1, chips := 500, seat := 0 }, { id := 2, chips := 300, seat := -1 }]
    let lvl : Blind := { level := 1, ante := 0, dealer := 0, sb := 10, bb := 20 }
    let brk : Blind := { level := -1, ante := 0, dealer := 0, sb := 0, bb := 0 }
    (createWith cfg lvl js [2]).2 = .ok ∧ (createWith cfg lvl js [2]).1.status = .balancing ∧
    (createWith cfg brk js [2]).2 = .ok ∧ (createWith cfg brk js [2]).1.status = .pausing ∧
    (createWith cfg brk js [2]).1.players.map (·.seat) = [0, 2] ∧ DrawLegal (create cfg brk) (.update js [] [2]) := by decide +kernel

/-- … nor by the retry loop: a break announced while `tableGameOpen` waits to retry a refused open stops the retry -/
theorem C12_break_retry (s : State) (hb : s.blind.isBreaking = true) (ch : Option Int) (ok : Bool) :
    (retryOpen s ch ok).2 ≠ .opened ∧ (retryOpen s ch ok).1 = s :=
  ⟨(C07_retry_no_open_when s ch ok (Or.inr (Or.inr (Or.inr (Or.inl hb))))).1,
   (C07_retry_no_open_when s ch ok (Or.inr (Or.inr (Or.inr (Or.inl hb))))).2.2⟩

theorem C12_break_pauses (s : State) (hb : s.blind.isBreaking = true) (hr : s.released = false)
    (hok : (continueGame s false).2 ≠ .failed) :
    (continueGame s false).2 = .paused ∧ (continueGame s false).1.status = .pausing := by
  rcases continueGame_cases s false with ⟨_, h⟩ | ⟨sm, ps, _, h⟩
  · rw [h] at hok; simp at hok
  · rw [h]
    have hp : shouldPause { resetHand s with sm := sm, players := ps } = true := by
      unfold shouldPause; simp [resetHand, hb]
    rw [(nextMove_standby _ (by simp [resetHand]) (by simp [resetHand, hr])).1 hp]
    exact ⟨rfl, rfl⟩

-- non-vacuity: a level change during the hand does not reach the hand
example : let t := gateFire exTable (some 0) true
    t.2 = .opened ∧ t.1.gameBlind = some exBlind ∧
    (setBlind t.1 { exBlind with level := 2, sb := 50, bb := 100 }).gameBlind = some exBlind := by decide +kernel

end TB
