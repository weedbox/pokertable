import PokerVerif.Lemmas.SMBasic
/-! The five membership mutators (`AssignSeats`, `RandomAssignSeats`, `RemoveSeats`, `JoinPlayers`, `UpdatePlayerHasChips`):
one case lemma each, and what they share: refused with the state given
back untouched, or accepted with nothing but the seat map changed (`Atomic`); on the empty list they change nothing. -/
namespace SM

/-- what `BBOk` reads of a state (seat count, rule, whether positions are set, the big-blind seat): a membership operation
changes none of it -/
structure SameButtons (a b : State) : Prop where
  maxSeat : a.maxSeat = b.maxSeat
  rule : a.rule = b.rule
  isInit : a.isInit = b.isInit
  bb : a.bb = b.bb

/-- the two outcomes of a membership mutator: refused, giving back the very state; accepted, with a new seat map -/
def Atomic (st : State) (r : State × Res) : Prop := (∃ e, r = (st, .err e)) ∨ ∃ ss, r = ({ st with seats := ss }, .ok)

theorem Atomic.err {st : State} {r : State × Res} (h : Atomic st r) (hne : r.2 ≠ .ok) : r.1 = st := by
  rcases h with ⟨e, rfl⟩ | ⟨ss, rfl⟩
  · rfl
  · exact absurd rfl hne

theorem Atomic.buttons {st : State} {r : State × Res} (h : Atomic st r) : SameButtons r.1 st := by
  rcases h with ⟨e, rfl⟩ | ⟨ss, rfl⟩ <;> exact ⟨rfl, rfl, rfl, rfl⟩

theorem place_other (st : State) (id : Nat) (seat i : Int) (h : i ≠ seat) : (place st id seat).seats i = st.seats i := by
  unfold place setSeat
  simp [h]

theorem place_self (st : State) (id : Nat) (seat : Int) :
    ∃ b, (place st id seat).seats seat = some { newSeatPlayer id with between := b } := by
  unfold place setSeat
  exact ⟨_, if_pos rfl⟩

theorem placeAll_frame (st : State) (b : List (Nat × Int)) : placeAll st b = { st with seats := (placeAll st b).seats } := by
  induction b generalizing st with
  | nil => rfl
  | cons e t ih => exact (ih (place st e.1 e.2)).trans rfl

/-- no error from the validation loop: every target is a seat of the table not held by somebody else, and no two players
of the batch share a target -/
theorem assignLoopErrs_nil (st : State) (b : List (Nat × Int)) (h : assignLoopErrs st b = []) :
    (∀ e ∈ b, inRange st e.2 = true ∧ occupiedByOther st e.1 e.2 = false) ∧
    (∀ a ∈ b, ∀ c ∈ b, a.1 ≠ c.1 → a.2 ≠ c.2) := by
  simp only [assignLoopErrs, List.append_eq_nil_iff, ite_eq_right_iff, reduceCtorEq, imp_false, Bool.not_eq_true,
    List.any_eq_false, Bool.not_eq_false', Bool.and_eq_true, bne_iff_ne, beq_iff_eq] at h
  obtain ⟨⟨h1, h2⟩, h3⟩ := h
  have ht : ∀ e ∈ b, occupiedByOther st e.1 e.2 = false := fun e he => Bool.eq_false_iff.2 fun ho => h2 e he ⟨h1 e he, ho⟩
  exact ⟨fun e he => ⟨h1 e he, ht e he⟩,
    fun a ha c hc hne heq => h3 a ha c hc ⟨⟨⟨hne, heq⟩, h1 a ha⟩, by rw [ht a ha]; rfl⟩⟩

theorem assign_cases (st : State) (b : List (Nat × Int)) :
    (∃ e, assign st b = (st, .err e)) ∨
    (assign st b = (placeAll st b, .ok) ∧ assignLoopErrs st b = [] ∧ ∀ e ∈ b, hasPlayer st e.1 = false) := by
  fun_cases assign st b
  case case4 c2 c3 =>
    exact .inr ⟨rfl, by simpa only [Bool.not_eq_true', Bool.not_eq_false, List.isEmpty_iff] using c2,
      by simpa only [List.any_eq_true, not_exists, not_and, Bool.not_eq_true] using c3⟩
  all_goals exact .inl ⟨_, rfl⟩

theorem randomAssign_cases (st : State) (ids : List Nat) (ch : List Int) :
    (∃ e, randomAssign st ids ch = (st, .err e)) ∨
    (randomAssign st ids ch = (placeAll st (ids.zip ch), .ok) ∧ (∀ id ∈ ids, hasPlayer st id = false) ∧
      allDistinct ids = true) := by
  fun_cases randomAssign st ids ch
  case case3 c1 _ =>
    simp only [Bool.or_eq_true, not_or, Bool.not_eq_true', Bool.not_eq_false, List.any_eq_true, not_exists, not_and,
      Bool.not_eq_true] at c1
    exact .inr ⟨rfl, c1.1, c1.2⟩
  all_goals exact .inl ⟨_, rfl⟩

theorem remove_cases (st : State) (ids : List Nat) :
    ((∃ id ∈ ids, hasPlayer st id = false) ∧ remove st ids = (st, .err [.playerNotFound])) ∨
    ((∀ id ∈ ids, hasPlayer st id = true) ∧
      remove st ids = ({ st with seats := clearSeats st.seats (ids.map (seatOf st)) }, .ok)) := by
  fun_cases remove st ids
  case case1 c => exact .inl ⟨by simpa only [List.any_eq_true, Bool.not_eq_true'] using c, rfl⟩
  case case2 c =>
    exact .inr ⟨by simpa only [List.any_eq_true, Bool.not_eq_true', not_exists, not_and, Bool.not_eq_false] using c, rfl⟩

theorem join_cases (st : State) (ids : List Nat) :
    ((∃ id ∈ ids, hasPlayer st id = false) ∧ join st ids = (st, .err [.playerNotFound])) ∨
    ((∀ id ∈ ids, hasPlayer st id = true) ∧
      join st ids = ({ st with seats := joinSeats st.seats (ids.map (seatOf st)) }, .ok)) := by
  fun_cases join st ids
  case case1 c => exact .inl ⟨by simpa only [List.any_eq_true, Bool.not_eq_true'] using c, rfl⟩
  case case2 c =>
    exact .inr ⟨by simpa only [List.any_eq_true, Bool.not_eq_true', not_exists, not_and, Bool.not_eq_false] using c, rfl⟩

theorem setChips_cases (st : State) (id : Nat) (b : Bool) :
    (hasPlayer st id = false ∧ setChips st id b = (st, .err [.playerNotFound])) ∨
    (hasPlayer st id = true ∧
      setChips st id b = ({ st with seats := updAt st.seats (seatOf st id) (fun p => { p with hasChips := b }) }, .ok)) := by
  fun_cases setChips st id b
  case case1 c => exact .inl ⟨by simpa only [Bool.not_eq_true'] using c, rfl⟩
  case case2 c => exact .inr ⟨by simpa only [Bool.not_eq_true', Bool.not_eq_false] using c, rfl⟩

theorem assign_atomic (st : State) (b : List (Nat × Int)) : Atomic st (assign st b) := by
  rcases assign_cases st b with h | ⟨h, _⟩
  · exact .inl h
  · exact .inr ⟨_, by rw [h, placeAll_frame]⟩

theorem randomAssign_atomic (st : State) (ids : List Nat) (ch : List Int) : Atomic st (randomAssign st ids ch) := by
  rcases randomAssign_cases st ids ch with h | ⟨h, _⟩
  · exact .inl h
  · exact .inr ⟨_, by rw [h, placeAll_frame]⟩

theorem remove_atomic (st : State) (ids : List Nat) : Atomic st (remove st ids) :=
  (remove_cases st ids).imp (fun h => ⟨_, h.2⟩) (fun h => ⟨_, h.2⟩)

theorem join_atomic (st : State) (ids : List Nat) : Atomic st (join st ids) :=
  (join_cases st ids).imp (fun h => ⟨_, h.2⟩) (fun h => ⟨_, h.2⟩)

theorem setChips_atomic (st : State) (id : Nat) (b : Bool) : Atomic st (setChips st id b) :=
  (setChips_cases st id b).imp (fun h => ⟨_, h.2⟩) (fun h => ⟨_, h.2⟩)

theorem assign_nil (st : State) : assign st [] = (st, .ok) := by simp [assign, assignLoopErrs, placeAll]

theorem randomAssign_nil (st : State) (ch : List Int) : randomAssign st [] ch = (st, .ok) := by
  simp [randomAssign, allDistinct, placeAll]

theorem remove_nil (st : State) : remove st [] = (st, .ok) := rfl

/-- a test for the empty list in front of a call only skips the call on the empty list; `batchAddPlayers` has three
(`assign_ite`, `randomAssign_ite`, `remove_ite`), each in front of a call that would change nothing -/
theorem ite_isEmpty {α β : Type} (l : List α) (f : List α → β) : (if l.isEmpty then f [] else f l) = f l := by
  cases l <;> rfl

theorem assign_ite (st : State) (b : List (Nat × Int)) : (if b.isEmpty then (st, .ok) else assign st b) = assign st b := by
  rw [← assign_nil st]; exact ite_isEmpty b (assign st)

theorem randomAssign_ite (st : State) (ids : List Nat) (ch : List Int) :
    (if ids.isEmpty then (st, .ok) else randomAssign st ids ch) = randomAssign st ids ch := by
  rw [← randomAssign_nil st ch]; exact ite_isEmpty ids (randomAssign st · ch)

theorem remove_ite (st : State) (b : List (Nat × Int)) :
    (if b.isEmpty then st else (remove st (b.map (·.1))).1) = (remove st (b.map (·.1))).1 :=
  ite_isEmpty b fun b => (remove st (b.map Prod.fst)).1

end SM
