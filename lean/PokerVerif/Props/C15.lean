import PokerVerif.Lemmas.HDBasic
import PokerVerif.Examples.HD
/-!
# C15 — The published action deadline matches the turn

Statement: whenever a betting round asks a player who has not yet acted to choose a wager action, the table publishes
an action deadline equal to the time of the request plus the configured action time; the deadline is cleared when the
betting round closes and between hands, and a deadline extension moves it later by exactly the requested seconds.

`HD.deliver` = a hand state reaching the table (`game.handleGameState`, then `te.updateGameState` →
`updateCurrentActionEndAt`); `now` is the engine's clock at that moment, an event argument.  (*partial*: that `now`
is the wall-clock time of the request is observed by the harness with a bracket `t0 ≤ deadline − actionTime ≤ t1`
on every such state of every run; a theorem cannot exhibit a clock.)
-/
namespace HD

/-- **C15 — deadline = time of the request + action time**, for every such state while the table is playing. -/
theorem C15_set (s : State) (v : View) (now : Int) (h : asksForWager v = true) :
    (deliver s v true now).endAt = now + s.actionTime :=
  if_pos (show armsDeadline true v = true from h)

/-- **C15 — cleared when the betting round closes** … -/
theorem C15_cleared_round_closed (s : State) (v : View) (p : Bool) (now : Int) (h : v.event = "RoundClosed") :
    (deliver s v p now).endAt = 0 := by
  -- a round that closes is not one that starts, so the deadline is not armed
  have ha : ¬armsDeadline p v = true := by
    rw [armsDeadline, asksForWager, h, beq_false_of_ne (by simp only [ne_eq, String.reduceEq, not_false_eq_true])]
    simp only [Bool.false_and, Bool.and_false, Bool.false_eq_true, not_false_eq_true]
  exact (if_neg ha).trans (if_pos (beq_iff_eq.2 h))

/-- **C15 — … and between hands**: `reset` is what `continueGame` does to the hand-level state. -/
theorem C15_cleared_between_hands (s : State) : (reset s).endAt = 0 := rfl

/-- any other state leaves the deadline as it is -/
theorem C15_unchanged_otherwise (s : State) (v : View) (p : Bool) (now : Int)
    (h1 : v.event ≠ "RoundClosed") (h2 : armsDeadline p v = false) : (deliver s v p now).endAt = s.endAt :=
  (if_neg (ne_true_of_eq_false h2)).trans (if_neg (mt beq_iff_eq.1 h1))

/-- **C15 — an extension moves the deadline later by exactly the requested seconds**, any number of times. -/
theorem C15_extend (s : State) (d : Int) : (extend s d).1.endAt = s.endAt + d ∧ (extend s d).2 = s.endAt + d := ⟨rfl, rfl⟩

theorem C15_extend_many (s : State) (ds : List Int) :
    (ds.foldl (fun st d => (extend st d).1) s).endAt = s.endAt + ds.sum := by
  induction ds generalizing s with
  | nil => simp
  | cons d t ih =>
    simp only [List.foldl_cons, List.sum_cons]
    rw [ih]
    show s.endAt + d + t.sum = s.endAt + (d + t.sum)
    omega

/-- accepted actions do not touch the deadline -/
theorem C15_actions_keep_deadline (s : State) (id : Nat) (kind : String) (arg : Int) (o : Oracle) :
    (act s id kind arg o).1.endAt = s.endAt := by
  obtain ⟨_, h⟩ | ⟨_, _, _, _, h, _⟩ := act_cases s id kind arg o <;> rw [h] <;> rfl

-- non-vacuity
example : asksForWager exView = true ∧ (deliver exState exView true 1000).endAt = 1007 ∧
    (extend (deliver exState exView true 1000) 15).2 = 1022 := by decide +kernel

end HD
